/-
Encoder lemmas: on ASCII text the rune-level EBCDIC encoder is a byte-for-byte map (length
preserving), which is what makes the length prefix (computed from the ASCII rendering) exact.
-/
import IclModel.Encoding
namespace Icl

def isAscii (s : Bytes) : Bool := s.all (fun b => b < 0x80)

theorem decodeRune_ascii (b : UInt8) (r : Bytes) (h : b < 0x80) : decodeRune (b :: r) = (b.toNat, 1) := by
  simp [decodeRune, h]

theorem encodeFuel_ascii (cm : Charmap) (s : Bytes) (fuel : Nat) (hf : s.length ≤ fuel) (h : isAscii s = true) :
    cm.encodeFuel fuel s = some (s.map (fun b => cm.encRune b.toNat)) := by
  induction s generalizing fuel with
  | nil => cases fuel <;> rfl
  | cons b r ih =>
    cases fuel with
    | zero => simp at hf
    | succ n =>
      simp only [isAscii, List.all_cons, Bool.and_eq_true, decide_eq_true_eq] at h
      have hi : incompleteRune (b :: r) = false := by simp [incompleteRune, h.1]
      simp only [Charmap.encodeFuel, decodeRune_ascii b r h.1, hi, Bool.and_false, Bool.false_eq_true, if_false, List.drop_one,
        List.tail_cons, ih n (by simpa using hf) h.2, Option.map_some, List.map_cons]

/-- **EBCDIC transliteration of ASCII text is byte for byte** (so it preserves length) -/
theorem encode_ascii (cm : Charmap) (s : Bytes) (h : isAscii s = true) :
    cm.encode s = some (s.map (fun b => cm.encRune b.toNat)) :=
  encodeFuel_ascii cm s s.length (Nat.le_refl _) h

theorem encode_ascii_length (cm : Charmap) (s t : Bytes) (h : isAscii s = true) (he : cm.encode s = some t) :
    t.length = s.length := by
  rw [encode_ascii cm s h] at he
  cases he; simp

end Icl
