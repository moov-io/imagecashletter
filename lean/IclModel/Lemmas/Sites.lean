/-
Soundness of the flattened form of validation rules: evaluating the statement tree of a
`Validate()` gives the verdict of the first firing site of its flattening.
-/
import IclModel.Sites
namespace Icl

def noAssign : Stmt → Bool
  | .assign _ _ => false
  | .seq a b => noAssign a && noAssign b
  | .ite _ a b => noAssign a && noAssign b
  | _ => true

def verdictOf : VOut → Option String
  | .cont _ => none
  | .rejected f => some f
  | .stuck => some "<opaque>"

def pathHolds (cx : VCtx) (v : Vals) (p : List (BExp × Bool)) : Bool :=
  p.all (fun q => evalB cx v q.1 == q.2)

theorem fires_eq (cx : VCtx) (v : Vals) (s : Site) : s.fires cx v = pathHolds cx v s.path := rfl

theorem pathHolds_snoc (cx : VCtx) (v : Vals) (p : List (BExp × Bool)) (c : BExp) (b : Bool) :
    pathHolds cx v (p ++ [(c, b)]) = (pathHolds cx v p && (evalB cx v c == b)) := by
  simp [pathHolds, List.all_append]

def firstFiring (cx : VCtx) (v : Vals) (l : List Site) : Option String :=
  (l.find? (fun s => s.fires cx v)).map (·.field)

theorem firstFiring_append (cx : VCtx) (v : Vals) (a b : List Site) :
    firstFiring cx v (a ++ b) = (firstFiring cx v a).or (firstFiring cx v b) := by
  simp only [firstFiring, List.find?_append]
  cases List.find? (fun s => s.fires cx v) a <;> simp

/-- **flattening is sound**: the sites of an assignment-free statement under a path fire only when the path
holds, and then the first to fire carries the statement's verdict (none: it falls through); the record it
passes on is the one it was given -/
theorem evalS_sites (cx : VCtx) (s : Stmt) (p : List (BExp × Bool)) (v : Vals) (hna : noAssign s = true) :
    firstFiring cx v (sitesAux s p) = (if pathHolds cx v p then verdictOf (evalS cx s v) else none) ∧
      ∀ v', evalS cx s v = .cont v' → v' = v := by
  induction s generalizing p with
  | skip => simp [evalS, verdictOf, sitesAux, firstFiring]
  | seq a b iha ihb =>
    simp only [noAssign, Bool.and_eq_true] at hna
    obtain ⟨ha, hva⟩ := iha p hna.1
    simp only [evalS, sitesAux, firstFiring_append, ha, (ihb p hna.2).1]
    cases hea : evalS cx a v with
    | cont va => cases hva va hea; exact ⟨by split <;> rfl, (ihb p hna.2).2⟩
    | rejected f => exact ⟨by split <;> rfl, nofun⟩
    | stuck => exact ⟨by split <;> rfl, nofun⟩
  | ite c a b iha ihb =>
    simp only [noAssign, Bool.and_eq_true] at hna
    simp only [evalS, sitesAux, firstFiring_append, (iha _ hna.1).1, (ihb _ hna.2).1, pathHolds_snoc]
    refine ⟨by cases evalB cx v c <;> cases pathHolds cx v p <;> simp, fun v' h => ?_⟩
    split at h
    · exact (iha p hna.1).2 v' h
    · exact (ihb p hna.2).2 v' h
  | reject f => simp [evalS, verdictOf, sitesAux, firstFiring, fires_eq]
  | assign f x => simp [noAssign] at hna
  | «opaque» => simp [evalS, verdictOf, sitesAux, firstFiring, fires_eq]

theorem evalS_noAssign_vals (cx : VCtx) (s : Stmt) (v v' : Vals) (h : noAssign s = true)
    (he : evalS cx s v = .cont v') : v' = v :=
  (evalS_sites cx s [] v h).2 v' he

theorem evalSites_firstFiring (cx : VCtx) (l : List Site) (v : Vals)
    (h : l.all (fun s => s.assign.isNone) = true) : (evalSites cx l v).1 = firstFiring cx v l := by
  fun_induction evalSites cx l v with
  | case1 v => rfl
  | case2 s r v hf x hx ih => simp [hx] at h
  | case3 s r v hf hx => simp [firstFiring, hf]
  | case4 s r v hf ih =>
    simp only [List.all_cons, Bool.and_eq_true] at h
    simpa [firstFiring, hf] using ih h.2

/-- **validation = first firing rule** for a `Validate()` body without assignments -/
theorem validate_sites (cx : VCtx) (s : Stmt) (v : Vals) (hna : noAssign s = true) :
    (validate cx s v).1 = firstFiring cx v (sites s) := by
  rw [sites, (evalS_sites cx s [] v hna).1, validate]
  cases evalS cx s v <;> rfl

end Icl
