/-
Helper lemmas about the repository model (IclModel/Api.lean): association-list facts, the store
invariant (kept by every program over the repository actions, `inv_run`), agreement of the value scan of
GetFile with a lookup by key, every handler in closed form.
-/
import IclModel.Api
namespace Icl.Api
open Spec

theorem lookup_cons (k k' : String) (f : AFile) (r : Store) :
    lookup ((k, f) :: r) k' = if k' = k then some f else lookup r k' := by
  unfold lookup; rw [List.lookup_cons]
  by_cases h : k' = k
  · rw [if_pos h, beq_iff_eq.2 h]
  · rw [if_neg h, beq_false_of_ne h]

theorem lookup_put (s : Store) (k k' : String) (f : AFile) :
    lookup (put s k f) k' = if k' = k then some f else lookup s k' := by
  fun_induction put s k f with
  | case1 k f => exact lookup_cons k k' f []
  | case2 r k f' f => simp only [lookup_cons]; split <;> rfl
  | case3 k0 f0 r k f h ih =>
    simp only [lookup_cons, ih]; split <;> rename_i h1
    · rw [if_neg (h1 ▸ h)]
    · rfl

theorem lookup_erase (s : Store) (k k' : String) :
    lookup (remove s k) k' = if k' = k then none else lookup s k' := by
  induction s with
  | nil => simp [remove, lookup]
  | cons kv r ih =>
    obtain ⟨k0, f0⟩ := kv
    have ih : lookup (List.filter (fun kv => decide (kv.1 ≠ k)) r) k' = _ := ih
    simp only [remove, List.filter_cons]
    split
    · rename_i h; simp only [lookup_cons, ih]; split <;> rename_i h1
      · rw [if_neg (h1 ▸ of_decide_eq_true h)]
      · rfl
    · rename_i h
      have h : k0 = k := by simpa using h
      subst h; simp only [lookup_cons, ih]; split <;> rfl

theorem mem_put (s : Store) (k : String) (f : AFile) (kv : String × AFile) (h : kv ∈ put s k f) :
    kv = (k, f) ∨ kv ∈ s := by
  fun_induction put s k f with
  | case1 k f => exact .inl (List.mem_singleton.1 h)
  | case2 r k f' f => exact (List.mem_cons.1 h).imp_right (List.mem_cons_of_mem _)
  | case3 k0 f0 r k f _ ih =>
    rcases List.mem_cons.1 h with h | h
    · exact .inr (h ▸ List.mem_cons_self)
    · exact (ih h).imp_right (List.mem_cons_of_mem _)

theorem put_nodup (s : Store) (k : String) (f : AFile) (h : (s.map (·.1)).Nodup) :
    ((put s k f).map (·.1)).Nodup := by
  fun_induction put s k f with
  | case1 k f => simp
  | case2 r k f' f => exact h
  | case3 k0 f0 r k f h0 ih =>
    simp only [List.map_cons, List.nodup_cons] at h ⊢
    refine ⟨fun hm => ?_, ih h.2⟩
    obtain ⟨kv, hkv, e⟩ := List.mem_map.1 hm
    rcases mem_put r k f kv hkv with e' | e'
    · exact h0 (by rw [← e, e'])
    · exact h.1 (List.mem_map.2 ⟨kv, e', e⟩)

theorem inv_nil : Inv [] := by simp [Inv]

theorem inv_put (s : Store) (f : AFile) (hs : Inv s) (hf : f.id ≠ "") : Inv (put s f.id f) := by
  refine ⟨put_nodup s f.id f hs.1, ?_⟩
  intro kv hkv
  rcases mem_put s f.id f kv hkv with h | h
  · subst h; exact ⟨rfl, hf⟩
  · exact hs.2 kv h

theorem inv_erase (s : Store) (k : String) (hs : Inv s) : Inv (remove s k) := by
  refine ⟨?_, ?_⟩
  · unfold remove
    have := hs.1
    exact (List.Nodup.sublist (List.Sublist.map _ List.filter_sublist) this)
  · intro kv hkv
    exact hs.2 kv ((List.mem_filter.1 hkv).1)

theorem lookup_some_id (s : Store) (hs : Inv s) (id : String) (f : AFile) (h : lookup s id = some f) :
    f.id = id ∧ id ≠ "" := by
  obtain ⟨l₁, l₂, rfl, -⟩ := List.lookup_eq_some_iff.1 h
  exact hs.2 _ (List.mem_append_right _ List.mem_cons_self)

theorem getFile_id (s : Store) (id : String) (f : AFile) (h : getFile s id = some f) : f.id = id := by
  obtain ⟨kv, hkv, rfl⟩ := Option.map_eq_some_iff.1 h
  simpa using List.find?_some hkv

theorem getFile_eq_lookup (s : Store) (hs : Inv s) (id : String) : getFile s id = lookup s id := by
  induction s with
  | nil => rfl
  | cons kv r ih =>
    obtain ⟨k0, f0⟩ := kv
    have hk : f0.id = k0 := (hs.2 (k0, f0) List.mem_cons_self).1
    have hr : Inv r := ⟨(List.nodup_cons.1 hs.1).2, fun kv h => hs.2 kv (List.mem_cons_of_mem _ h)⟩
    rw [lookup_cons, ← ih hr]
    simp only [getFile, List.find?_cons, hk]
    by_cases h : id = k0
    · subst h; simp
    · have : ¬ k0 = id := fun e => h e.symm
      simp [h, this]

theorem lookup_empty_key (s : Store) (hs : Inv s) : lookup s "" = none := by
  cases h : lookup s "" with
  | none => rfl
  | some f => exact absurd rfl (lookup_some_id s hs "" f h).2

theorem runHistory_append (s : Store) (a b : List Req) :
    runHistory s (a ++ b) = ((runHistory (runHistory s a).1 b).1, (runHistory s a).2 ++ (runHistory (runHistory s a).1 b).2) := by
  induction a generalizing s with
  | nil => simp [runHistory]
  | cons r a ih => simp [runHistory, ih]

theorem run_routed (id : String) (p : Prog) (s : Store) :
    (routed [id] p).run s = if id = "" then (s, .notFound) else p.run s := by
  unfold routed; by_cases h : id = "" <;> simp [h, Prog.run]

theorem run_routed₂ (id cid : String) (p : Prog) (s : Store) :
    (routed [id, cid] p).run s = if id = "" ∨ cid = "" then (s, .notFound) else p.run s := by
  unfold routed; by_cases h : id = "" <;> by_cases h2 : cid = "" <;> simp [h, h2, Prog.run]

/-- what a read handler answers: 404 for the empty ID (the router) and for an ID `GetFile` does not
find, else the response computed from the copy -/
def readResp (s : Store) (id : String) (g : AFile → Resp) : Resp :=
  if id = "" then .notFound else (getFile s id).elim .notFound g

theorem run_read (s : Store) (id : String) (g : AFile → Resp) :
    (routed [id] (.getFile id fun | none => .ret .notFound | some f => .ret (g f))).run s = (s, readResp s id g) := by
  rw [run_routed, readResp]
  split
  · rfl
  · simp only [Prog.run]; cases getFile s id <;> rfl

theorem read_none (s : Store) (id : String) (g : AFile → Resp) (h : id = "" ∨ getFile s id = none) :
    readResp s id g = .notFound := by
  unfold readResp
  rcases h with h | h
  · rw [if_pos h]
  · rw [h]; split <;> rfl

theorem read_inv (s : Store) (hs : Inv s) (id : String) (g : AFile → Resp) :
    (s, readResp s id g) = match lookup s id with
      | some f => (s, g f)
      | none => (s, .notFound) := by
  rw [readResp, getFile_eq_lookup s hs]
  split
  · rename_i h; rw [h, lookup_empty_key s hs]
  · cases lookup s id <;> rfl

theorem step_get (s : Store) (id : String) :
    step s (.get id) = (s, readResp s id (.file 200)) :=
  run_read s id _

theorem step_contents (s : Store) (id : String) :
    step s (.contents id) = (s, readResp s id .contents) :=
  run_read s id _

theorem step_validate (s : Store) (id : String) :
    step s (.validate id) = (s, readResp s id .validated) :=
  run_read s id _

/-- `Lock; GetFile; SaveFile; Unlock` around a local update `g` of the copy -/
def rmw (s : Store) (id : String) (g : AFile → AFile) (ok : AFile → Resp) : Store × Resp :=
  match getFile s id with
  | none => (s, .notFound)
  | some f =>
    match saveFile s (g f) with
    | some s' => (s', ok (g f))
    | none => (s, .bad)

theorem run_rmw (s : Store) (id : String) (g : AFile → AFile) (ok : AFile → Resp) :
    (Prog.lock (.getFile id fun
      | none => .unlock (.ret .notFound)
      | some f => .save (g f) fun b => .unlock (.ret (if b then ok (g f) else .bad)))).run s = rmw s id g ok := by
  simp only [Prog.run, rmw]
  cases getFile s id with
  | none => rfl
  | some f => simp only [Prog.run]; cases saveFile s (g f) <;> rfl

theorem rmw_none (s : Store) (id : String) (g : AFile → AFile) (ok : AFile → Resp) (h : getFile s id = none) :
    rmw s id g ok = (s, .notFound) := by
  simp only [rmw, h]

theorem rmw_inv (s : Store) (hs : Inv s) (id : String) (g : AFile → AFile) (ok : AFile → Resp)
    (hg : ∀ f, (g f).id = f.id) :
    rmw s id g ok = match lookup s id with
      | none => (s, .notFound)
      | some f => (upsert s (g f), ok (g f)) := by
  unfold rmw; rw [getFile_eq_lookup s hs]
  cases h : lookup s id with
  | none => rfl
  | some f =>
    have hid := lookup_some_id s hs id f h
    simp only [saveFile, hg, hid.1, hid.2, if_false, upsert]

theorem step_updateHeader (s : Store) (id : String) (h : Option Nat) :
    step s (.updateHeader id h) = if id = "" then (s, .notFound) else
      match h with
      | none => (s, .bad)
      | some hv => rmw s id (fun f => { f with hdr := hv }) (.file 201) := by
  show (hUpdateHeader id h).run s = _
  unfold hUpdateHeader; rw [run_routed]
  split
  · rfl
  · cases h with
    | none => rfl
    | some hv => exact run_rmw s id _ _

theorem step_addCL (s : Store) (id : String) (c : Option ACl) :
    step s (.addCL id c) = if id = "" then (s, .notFound) else
      match c with
      | none => (s, .bad)
      | some cv => rmw s id (fun f => { f with cls := f.cls ++ [cv] }) (.file 200) := by
  show (hAddCL id c).run s = _
  unfold hAddCL; rw [run_routed]
  split
  · rfl
  · cases c with
    | none => rfl
    | some cv => exact run_rmw s id _ _

theorem step_removeCL (s : Store) (id cid : String) :
    step s (.removeCL id cid) = if id = "" ∨ cid = "" then (s, .notFound) else
      rmw s id (fun f => { f with cls := f.cls.filter (fun c => c.id ≠ cid) }) (fun _ => .okNull) := by
  show (hRemoveCL id cid).run s = _
  unfold hRemoveCL; rw [run_routed₂]
  split
  · rfl
  · exact run_rmw s id _ fun _ => .okNull

theorem step_delete (s : Store) (id : String) :
    step s (.delete id) = if id = "" then (s, .notFound) else
      match getFile s id with
      | none => (s, .notFound)
      | some _ => (remove s id, .okNull) := by
  show (hDelete id).run s = _
  unfold hDelete; rw [run_routed]
  split
  · rfl
  · rename_i h
    simp only [Prog.run]
    cases getFile s id with
    | none => rfl
    | some f => simp only [Prog.run, deleteFile, h, if_false, if_true]; rfl

/-- the two creates read nothing: they agree with the reference map on every store -/
theorem step_createV1 (s : Store) (ct : CT) (u : Upload) (fresh : String) :
    step s (.createV1 ct u fresh) = Spec.step s (.createV1 ct u fresh) := by
  show (hCreateV1 ct u fresh).run s = _
  unfold hCreateV1; simp only [Spec.step]
  cases v1Parsed ct u with
  | none => rfl
  | some f => by_cases hid : (withId f fresh).id = "" <;> simp [Prog.run, saveFile, upsert, hid]

theorem step_createV2 (s : Store) (ct : CT) (u : Upload) (fresh : String) (acc : Accept) :
    step s (.createV2 ct u fresh acc) = Spec.step s (.createV2 ct u fresh acc) := by
  show (hCreateV2 ct u fresh acc).run s = _
  unfold hCreateV2; simp only [Spec.step]
  cases v2Parsed ct u with
  | none => rfl
  | some f => by_cases hid : fresh = "" <;> simp [Prog.run, saveFile, upsert, hid]

theorem inv_run (p : Prog) (s : Store) (hs : Inv s) : Inv (p.run s).1 := by
  induction p generalizing s with
  | ret r => exact hs
  | getFiles k ih | getFile id k ih => exact ih _ s hs
  | lock k ih | unlock k ih => exact ih s hs
  | save f k ih =>
    rw [Prog.run, saveFile]
    by_cases hf : f.id = ""
    · rw [if_pos hf]; exact ih _ s hs
    · rw [if_neg hf]; exact ih _ _ (inv_put s f hs hf)
  | delete id k ih =>
    rw [Prog.run, deleteFile]
    by_cases hf : id = ""
    · rw [if_pos hf]; exact ih _ s hs
    · rw [if_neg hf]; exact ih _ _ (inv_erase s id hs)

theorem inv_step (s : Store) (hs : Inv s) (r : Req) : Inv (step s r).1 :=
  inv_run _ s hs

end Icl.Api
