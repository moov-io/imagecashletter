/-
C01's per-record premise under EBCDIC, for every record kind whose line the reader decodes as a whole
(all kinds but 52): when every byte of the ASCII rendering is a character the code page carries and gives
back (`safeB`, decidable per byte on the regenerated CP037 table), the EBCDIC body is the byte-for-byte
transliteration, the reader's decoder inverts it, and the ASCII result (`RecCanon.lean`) applies.  Record 52
travels as transliterated text followed by the raw image bytes and is decoded section by section.
-/
import IclModel.Lemmas.RecCanon
import IclModel.Lemmas.Ebcdic
import IclModel.Lemmas.WriterLink
import IclModel.Lemmas.Table
namespace Icl.C01
open Icl Icl.C04

/-- a byte of an ASCII rendering that survives the code page: ASCII, decoded back from its EBCDIC byte to itself,
and not one of the three EBCDIC bytes the FRB compatibility mode rewrites in addendum A lines -/
def safeB (cm : Charmap) (b : UInt8) : Bool :=
  b < 0x80 && utf8Encode (cm.dec.getD (cm.encRune b.toNat).toNat 0xFFFD) == [b] &&
    cm.encRune b.toNat != 0xAD && cm.encRune b.toNat != 0xBD && cm.encRune b.toNat != 0x5F

def enc1 (cm : Charmap) (b : UInt8) : UInt8 := cm.encRune b.toNat

theorem safe_isAscii (cm : Charmap) (s : Bytes) (h : s.all (safeB cm) = true) : isAscii s = true := by
  simp only [isAscii, List.all_eq_true] at h ⊢
  intro b hb
  have := h b hb
  simp only [safeB, Bool.and_eq_true, decide_eq_true_eq] at this
  simpa using this.1.1.1.1

theorem decode_enc (cm : Charmap) (s : Bytes) (h : s.all (safeB cm) = true) : cm.decode (s.map (enc1 cm)) = s := by
  rw [Charmap.decode, List.flatMap_map, List.flatMap_def, List.map_congr_left (g := fun b => [b]), ← List.flatMap_def,
    List.flatMap_singleton']
  intro b hb
  have hb := List.all_eq_true.1 h b hb
  simp only [safeB, Bool.and_eq_true, beq_iff_eq] at hb
  exact hb.1.1.1.2

theorem ibm1047_enc (cm : Charmap) (frb : Bool) (s : Bytes) (h : s.all (safeB cm) = true) :
    ibm1047 frb (s.map (enc1 cm)) = s.map (enc1 cm) :=
  ibm1047_id frb _ (List.forall_mem_map.2 fun b hb => by
    have := List.all_eq_true.1 h b hb
    simp only [safeB, Bool.and_eq_true, bne_iff_ne, ne_eq] at this
    exact ⟨this.1.1.2, this.1.2, this.2⟩)

/-- the code page writes the ten digits as 0xF0..0xF9 (so that type codes keep their EBCDIC spelling) -/
def DigitsOK (cm : Charmap) : Bool := (List.range 10).all (fun i => cm.encRune (48 + i) == UInt8.ofNat (0xF0 + i))

theorem enc1_digit (cm : Charmap) (hd : DigitsOK cm = true) (i : Nat) (hi : i < 10) :
    enc1 cm (UInt8.ofNat (48 + i)) = UInt8.ofNat (48 + i) + 0xC0 := by
  simp only [DigitsOK, List.all_eq_true, List.mem_range, beq_iff_eq] at hd
  have h : (UInt8.ofNat (48 + i)).toNat = 48 + i := by simp; omega
  rw [enc1, h, hd i hi, show 0xF0 + i = 48 + i + 192 by omega, UInt8.ofNat_add]; rfl

theorem tag_enc (cm : Charmap) (hd : DigitsOK cm = true) (k : Kind) : k.tag.map (enc1 cm) = ebcTag k.tag :=
  List.map_congr_left fun b hb => by
    obtain ⟨i, hi, rfl⟩ := tag_digits k b hb
    exact enc1_digit cm hd i hi

theorem bodyLn_ebcdic (m : Model) (e : Enc) (he : e.ebcdic = true) (k : Kind) (hk : k ≠ .ivData) (v : Vals)
    (hs : (lineOf m k (some v)).all (safeB m.cm) = true) :
    bodyLn m e k v = (lineOf m k (some v)).map (enc1 m.cm) := by
  simp only [bodyLn, he, bodyOf_ebcdic m k _ hk, encode_ascii _ _ (safe_isAscii m.cm _ hs), Option.getD_some]
  rfl


/-- **from the ASCII line to its EBCDIC transliteration**, for every kind the reader decodes as a whole line:
if the ASCII rendering starts with the type code, is text the code page carries, and the ASCII reader reads it
back as `v`, then the EBCDIC reader reads the transliterated line back as `v` -/
theorem recOK_translit (m : Model) (e : Enc) (he : e.ebcdic = true) (hd : DigitsOK m.cm = true) (k : Kind)
    (hk : k ≠ .ivData) (v : Vals) (rest : Bytes) (hr : lineOf m k (some v) = k.tag ++ rest)
    (hs : (lineOf m k (some v)).all (safeB m.cm) = true)
    (hA : RecOK m ⟨e.lp, false⟩ (fun k v => lineOf m k (some v)) k v) : RecOK m e (bodyLn m e) k v := by
  obtain ⟨hkindA, hminA, hparseA⟩ := hA
  have hbody := bodyLn_ebcdic m e he k hk v hs
  have hdec := decode_enc m.cm _ hs
  have hkind : kindOfLine (bodyLn m e k v) = some k := by
    rw [hbody, hr, List.map_append, tag_enc m.cm hd k]; exact kindOfLine_ebcTag k _
  refine ⟨hkind, ?_, ?_⟩
  · -- the minimum length computed from the decoded head is the one computed from the ASCII line
    show minLen m e (bodyLn m e k v) ≤ (bodyLn m e k v).length
    have heq : minLen m e (bodyLn m e k v) = minLen m ⟨e.lp, false⟩ (lineOf m k (some v)) := by
      unfold minLen
      rw [hkind, hkindA, hbody]
      have hhead : m.cm.decode (((lineOf m k (some v)).map (enc1 m.cm)).take 22) = (lineOf m k (some v)).take 22 := by
        rw [← List.map_take]; exact decode_enc m.cm _ (all_of_subset hs (List.take_subset 22 _))
      cases k <;> simp only [he, if_true, Bool.false_eq_true, if_false, id, List.length_map, hhead] <;> exact absurd rfl hk
    rw [heq, hbody, List.length_map]; exact hminA
  · show recParse m e k (bodyLn m e k v) (tmpl m k) = .ok v
    have hibm := ibm1047_enc m.cm (m.frb && true) _ hs
    rw [recParse_ascii m _ rfl] at hparseA
    rw [hbody]
    cases k <;> simp only [recParse, he, if_true, hibm, hdec] <;> first | exact hparseA | exact absurd rfl hk

/-- **C01's per-record premise under EBCDIC** (fixed-width kinds): the transliterated line of a canonical record
whose rendering is safe text is read back by the reader as that record -/
theorem recOK_ebcdic (m : Model) (e : Enc) (he : e.ebcdic = true) (hd : DigitsOK m.cm = true) (k : Kind)
    (hk : FixedKind m k = true) (v : Vals) (hc : RecCanon m k v)
    (hs : (lineOf m k (some v)).all (safeB m.cm) = true) : RecOK m e (bodyLn m e) k v := by
  have hA := recOK_ascii m ⟨e.lp, false⟩ rfl k hk v hc
  simp only [FixedKind, Bool.and_eq_true, bne_iff_ne, ne_eq] at hk
  obtain ⟨rest, hr⟩ := typeFirst_line m k _ v hc hk.1.1.1.1.2
  exact recOK_translit m e he hd k hk.1.1.2 v rest hr hs hA

theorem recOK_ebcdic_key (m : Model) (e : Enc) (he : e.ebcdic = true) (hd : DigitsOK m.cm = true) (k : Kind)
    (hk : KeyKind m k = true) (v : Vals) (hc : RecCanon m k v)
    (hs : (lineOf m k (some v)).all (safeB m.cm) = true) : RecOK m e (bodyLn m e) k v := by
  have hA := recOK_ascii_key m ⟨e.lp, false⟩ rfl k hk v hc
  simp only [KeyKind, Bool.and_eq_true, beq_iff_eq, Bool.or_eq_true] at hk
  obtain ⟨rest, hr⟩ := typeFirst_line m k _ v hc hk.1.1.1.1.1.1.2
  exact recOK_translit m e he hd k (by rcases hk.1.1.1.1.1.2 with h | h <;> subst h <;> simp) v rest hr hs hA


/-! ### record 52 under EBCDIC: transliterated text followed by the raw image bytes, decoded section by section -/

theorem render_noimg (b64 : Bytes → Option Bytes) (ws : List WField) (v : Vals) (incl : Bool)
    (h : ws.all (fun f => !f.imageOnly) = true) : render b64 ws incl v = render b64 ws true v := by
  induction ws with
  | nil => rfl
  | cons f r ih =>
    simp only [List.all_cons, Bool.and_eq_true, Bool.not_eq_true'] at h
    simp only [render, h.1, Bool.false_and, Bool.false_eq_true, if_false]
    rw [ih (by simpa using h.2)]

/-- the slices of the EBCDIC carrier of a record whose last written field is the raw image -/
theorem iv_slice (b64 : Bytes → Option Bytes) (cm : Charmap) (init : List WField) (last : WField) (v : Vals) (ht : TypeSet v)
    (hwf : AllWf (init ++ [last]) = true) (hsym : ∀ g ∈ init ++ [last], LenIsSym b64 g v)
    (hni : init.all (fun f => !f.imageOnly) = true) (hli : last.imageOnly = true)
    (hsafe : (render b64 init true v).all (safeB cm) = true)
    (o : SymOff) (f : WField) (pre post : Bytes) (hmem : (o, f) ∈ spans (init ++ [last]) ⟨0, []⟩)
    (_h1 : render b64 (init ++ [last]) true v = pre ++ renderField b64 f v ++ post) (hpre : pre.length = o.val v) :
    ∃ x, slice? ((render b64 init true v).map (enc1 cm) ++ renderField b64 last v) (pre.length : Int)
        ((pre.length + (renderField b64 f v).length : Nat) : Int) = some x ∧
      ∀ dc, dc = !f.imageOnly → (if dc = true then cm.decode x else x) = renderField b64 f v := by
  have hwfI : AllWf init = true := by
    simp only [AllWf, List.all_append, Bool.and_eq_true] at hwf; exact hwf.1
  have hsymI : ∀ g ∈ init, LenIsSym b64 g v := fun g hg => hsym g (by simp [hg])
  rw [spans_append] at hmem
  rcases List.mem_append.1 hmem with hm | hm
  · obtain ⟨pre', post', e1, e2, _⟩ := span_split b64 v ht init ⟨0, []⟩ o f hwfI hsymI hm
    have hfi : f.imageOnly = false := by simpa using List.all_eq_true.1 hni f (span_mem_field hm)
    have hplen : pre.length = pre'.length := by rw [hpre, ← e2]; exact Nat.zero_add _
    refine ⟨(renderField b64 f v).map (enc1 cm), ?_, ?_⟩
    · rw [e1, hplen]
      simpa [List.append_assoc] using
        slice?_mid (pre'.map (enc1 cm)) ((renderField b64 f v).map (enc1 cm)) (post'.map (enc1 cm) ++ renderField b64 last v)
    · intro dc hdc
      rw [hdc, hfi]
      simp only [Bool.not_false, if_true]
      rw [e1] at hsafe
      exact decode_enc cm _ (all_of_subset hsafe ((List.subset_append_right _ _).trans (List.subset_append_left _ _)))
  · simp only [spans, Prod.mk.injEq, List.mem_cons, List.not_mem_nil, or_false] at hm
    obtain ⟨ho, hf⟩ := hm
    subst hf
    have hplen : pre.length = (render b64 init true v).length := by
      rw [hpre, ho, render_length_endOff b64 v ht init hwfI hsymI]
    refine ⟨renderField b64 f v, ?_, ?_⟩
    · rw [hplen]
      simpa using slice?_mid ((render b64 init true v).map (enc1 cm)) (renderField b64 f v) []
    · intro dc hdc
      rw [hdc, hli]
      simp


theorem carrier_reads (cm : Charmap) (T img : Bytes) (stop w n : Nat) (h : ReadsAt id (T ++ img) stop w n)
    (hin : stop + w ≤ T.length) (hsafe : T.all (safeB cm) = true) :
    ReadsAt cm.decode (T.map (enc1 cm) ++ img) stop w n := by
  -- the field is cut out of the text part alone
  have inText : ∀ A : Bytes, A.length = T.length → ((A ++ img).drop stop).take w = (A.drop stop).take w := by
    intro A hA
    rw [List.drop_append_of_le_length (by omega), List.take_append_of_le_length (by rw [List.length_drop]; omega)]
  obtain ⟨hlen, hnum⟩ := h
  rw [inText T rfl] at hnum
  refine ⟨by simpa only [List.length_append, List.length_map] using hlen, ?_⟩
  rw [inText _ (List.length_map _), ← List.map_drop, ← List.map_take,
    decode_enc cm _ (all_of_subset hsafe ((List.take_subset _ _).trans (List.drop_subset _ _)))]
  exact hnum


/-- the decode flags of `Parse()` agree with the carrier: every member decoded through the reader's decoder except the image -/
def flagsB (ws : List WField) (ps : List PStmt) : Bool :=
  ps.all (fun st => match st with
    | .assign dst _ _ _ dc => ws.all (fun f => f.src != dst || dc == !f.imageOnly)
    | _ => true)

theorem flagsB_sound (ws : List WField) (ps : List PStmt) (h : flagsB ws ps = true) :
    FlagsOK (fun f dc => dc = !f.imageOnly) ws ps := by
  intro dst lo hi k dc hm f hf hs
  have := List.all_eq_true.1 (List.all_eq_true.1 h _ hm) f hf
  simpa [hs] using this

/-- record 52 for the EBCDIC carrier: the ASCII facts, the image is the last written field and the only image-only
one, `Parse()` counts bytes only, and its decode flags fit -/
def IvKindE (m : Model) : Bool :=
  IvKind m .ivData &&
  (match (m.layout .ivData).write.reverse with
   | last :: initR => last.imageOnly && isVarConv last.conv && last.lenField == "LengthImageData" && initR.all (fun f => !f.imageOnly)
   | [] => false) &&
  (m.layout .ivData).parse.all (fun st => !usesRunes st) &&
  flagsB (m.layout .ivData).write (m.layout .ivData).parse

/-- the text part of record 52 (everything but the image bytes) is safe text -/
def IvSafe (m : Model) (v : Vals) : Prop :=
  (render m.b64 (m.layout .ivData).write false v).all (safeB m.cm) = true

/-- record 52 on the EBCDIC carrier: the write table is `init ++ [last]` with `last` the image, the body is the
transliterated text `init` renders followed by the raw image bytes -/
theorem iv_body (m : Model) (e : Enc) (he : e.ebcdic = true) (hk : IvKindE m = true) (v : Vals) (hs : IvSafe m v) :
    ∃ init last, (m.layout .ivData).write = init ++ [last] ∧ init.all (fun f => !f.imageOnly) = true ∧
      last.imageOnly = true ∧ isVarConv last.conv = true ∧ last.lenField = "LengthImageData" ∧
      (render m.b64 init true v).all (safeB m.cm) = true ∧
      lineOf m .ivData (some v) = render m.b64 init true v ++ renderField m.b64 last v ∧
      bodyLn m e .ivData v = (render m.b64 init true v).map (enc1 m.cm) ++ renderField m.b64 last v := by
  simp only [IvKindE, Bool.and_eq_true] at hk
  obtain ⟨⟨⟨_, hlast⟩, _⟩, _⟩ := hk
  cases hrev : (m.layout .ivData).write.reverse with
  | nil => simp [hrev] at hlast
  | cons last initR =>
    simp only [hrev, Bool.and_eq_true, beq_iff_eq] at hlast
    obtain ⟨⟨⟨hli, hlv⟩, hllf⟩, hni⟩ := hlast
    have hws : (m.layout .ivData).write = initR.reverse ++ [last] := by
      have := congrArg List.reverse hrev
      simpa using this
    have hniI : initR.reverse.all (fun f => !f.imageOnly) = true := by
      simp only [List.all_eq_true, List.mem_reverse] at hni ⊢; exact hni
    have htext : render m.b64 (m.layout .ivData).write false v = render m.b64 initR.reverse true v := by
      rw [hws, render_append, render_noimg m.b64 _ v false hniI]
      simp [render, hli]
    have hfull : render m.b64 (m.layout .ivData).write true v = render m.b64 initR.reverse true v ++ renderField m.b64 last v := by
      rw [hws, render_append]; simp [render]
    have hsafe : (render m.b64 initR.reverse true v).all (safeB m.cm) = true := by
      have := hs; unfold IvSafe at this; rw [htext] at this; exact this
    have hfil : ((m.layout .ivData).write.filter (·.imageOnly)) = [last] := by
      have : initR.reverse.filter (·.imageOnly) = [] :=
        List.filter_eq_nil_iff.2 fun a ha => by simpa using List.all_eq_true.1 hniI a ha
      simp [hws, List.filter_append, this, hli]
    refine ⟨initR.reverse, last, hws, hniI, hli, hlv, hllf, hsafe, hfull, ?_⟩
    simp only [bodyLn, he, bodyOf, if_true, htext, encode_ascii _ _ (safe_isAscii m.cm _ hsafe), hfil,
      Option.map_some, Option.getD_some, List.flatMap_cons, List.flatMap_nil, List.append_nil]
    rfl

theorem recOK_ebcdic_iv (m : Model) (e : Enc) (he : e.ebcdic = true) (hd : DigitsOK m.cm = true)
    (hk : IvKindE m = true) (v : Vals) (hc : RecCanon m .ivData v) (hs : IvSafe m v) :
    RecOK m e (bodyLn m e) .ivData v := by
  obtain ⟨init, last, hws, hniI, hli, hlv, hllf, hsafe, hfull, hbody⟩ := iv_body m e he hk v hs
  simp only [IvKindE, Bool.and_eq_true] at hk
  obtain ⟨⟨⟨hiv, _⟩, hnr⟩, hflags⟩ := hk
  obtain ⟨K, S, I, a, b, c, hlen, hI⟩ := iv_reads m hiv v hc
  obtain ⟨-, hl, htf⟩ := ivKind_base m _ hiv
  have ht := canon_typeSet m .ivData _ v hc
  have hlo := hl
  simp only [LayoutOK, Bool.and_eq_true] at hlo
  have hwf : AllWf (init ++ [last]) = true := by rw [← hws]; exact hlo.1
  have hsym : ∀ g ∈ init ++ [last], LenIsSym m.b64 g v := by
    rw [← hws]; exact lenIsSym_all m.b64 _ _ _ v hc.canon
  have hRlen : (bodyLn m e .ivData v).length = (lineOf m .ivData (some v)).length := by
    rw [hbody, hfull]; simp
  -- the text part is 117 + key + signature bytes long
  have hlastlen : (renderField m.b64 last v).length = I := by
    have hlw : WfW last = true := by
      simp only [AllWf, List.all_eq_true] at hwf; exact hwf last (by simp)
    rw [renderField_length m.b64 last v hlw ht]
    have := hsym last (by simp)
    unfold LenIsSym at this
    rw [this, hlv, if_pos rfl, hllf, hI]
  have hTlen : (render m.b64 init true v).length = 117 + (K + S) := by
    have := hlen; rw [hfull, List.length_append, hlastlen] at this; omega
  -- kind: the type code lies in the text part
  obtain ⟨rest, hr⟩ := typeFirst_line m .ivData _ v hc htf
  have hkind : kindOfLine (bodyLn m e .ivData v) = some .ivData := by
    refine kindOfLine_of_take _ _ (.inr ?_)
    have h2 := congrArg (List.take 2) (hfull.symm.trans hr)
    rw [List.take_append_of_le_length (by omega), take_tag] at h2
    rw [hbody, List.take_append_of_le_length (by rw [List.length_map]; omega), ← List.map_take, h2, tag_enc m.cm hd]
  refine ⟨hkind, ?_, ?_⟩
  · show minLen m e (bodyLn m e .ivData v) ≤ (bodyLn m e .ivData v).length
    rw [hfull] at a b c
    have hnl : ¬ (bodyLn m e .ivData v).length < 80 := by rw [hRlen, hlen]; omega
    unfold minLen
    simp only [hkind, hnl, if_false, he, if_true]
    rw [hRlen, hlen, hbody, ivMinLen_reads _ _ K S I (carrier_reads m.cm _ _ _ _ _ a (by omega) hsafe)
      (carrier_reads m.cm _ _ _ _ _ b (by omega) hsafe) (carrier_reads m.cm _ _ _ _ _ c (by omega) hsafe)]
    exact Nat.le_refl _
  · show recParse m e .ivData (bodyLn m e .ivData v) (tmpl m .ivData) = .ok v
    simp only [recParse, he, if_true]
    simp only [List.all_eq_true, Bool.not_eq_true'] at hnr
    have hp := parse_render_gen m.b64 m.now (m.layout .ivData).setType (m.layout .ivData).write v
      (rawDsts (m.layout .ivData).parse) (assignDsts (m.layout .ivData).parse) hlo.1 ht hc.canon
      m.cm.decode (bodyLn m e .ivData v) (fun f dc => dc = !f.imageOnly) hRlen
      (fun o f pre post hmem h1 hpre => by
        rw [hbody]; rw [hws] at hmem h1
        exact iv_slice m.b64 m.cm init last v ht hwf hsym hniI hli hsafe o f pre post hmem h1 hpre)
      (m.layout .ivData).parse {} (tmpl m .ivData) (fun d hd => hd)
      (fun st hst hu => by rw [hnr st hst] at hu; cases hu) (flagsB_sound _ _ hflags)
      (by intro d hd; cases hd) hlo.2
    have he0 : envOf v ({} : PSt).binds = [] := rfl
    rw [he0, hc.shaped] at hp
    unfold parseValidate RecLayout.parseRec
    dsimp only
    rw [hp]
    simp only [hc.valid]

end Icl.C01
