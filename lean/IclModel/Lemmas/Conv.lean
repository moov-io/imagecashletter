/-
Helper lemmas about the converters of L0: the cut rule, padding shape, exact output widths.
-/
import IclModel.Layout
namespace Icl

theorem alphaField_cut (s : Bytes) (w : Nat) (h : w < s.length) : alphaField s w = s.take w :=
  if_pos h

theorem zstrField_cut (s : Bytes) (w : Nat) (h : w < s.length) : zstrField s w = s.take w :=
  if_pos h

theorem nbsmField_cut (s : Bytes) (w : Nat) (h : w < s.length) : nbsmField s w = s.drop (s.length - w) :=
  if_pos h

theorem numericField_cut (n : Int) (w : Nat) (h : w < (itoa n).length) :
    numericField n w = (itoa n).drop ((itoa n).length - w) :=
  if_pos h

/-! padding shape for values that fit: the first test fails, and the guard on the fill holds since
`w - length ≤ w < maxGrow` -/

theorem alphaField_fit (s : Bytes) (w : Nat) (h : s.length ≤ w) (hw : w < maxGrow) :
    alphaField s w = s ++ List.replicate (w - s.length) SP :=
  (if_neg (Nat.not_lt.2 h)).trans (if_pos (Nat.lt_of_le_of_lt (Nat.sub_le _ _) hw))

theorem nbsmField_fit (s : Bytes) (w : Nat) (h : s.length ≤ w) (hw : w < maxGrow) :
    nbsmField s w = List.replicate (w - s.length) SP ++ s :=
  (if_neg (Nat.not_lt.2 h)).trans (if_pos (Nat.lt_of_le_of_lt (Nat.sub_le _ _) hw))

theorem zstrField_fit (s : Bytes) (w : Nat) (h : s.length ≤ w) (hw : w < maxGrow) :
    zstrField s w = List.replicate (w - s.length) ZERO ++ s :=
  (if_neg (Nat.not_lt.2 h)).trans (if_pos (Nat.lt_of_le_of_lt (Nat.sub_le _ _) hw))

theorem numericField_fit (n : Int) (w : Nat) (h : (itoa n).length ≤ w) (hw : w < maxGrow) :
    numericField n w = List.replicate (w - (itoa n).length) ZERO ++ itoa n :=
  (if_neg (Nat.not_lt.2 h)).trans (if_pos (Nat.lt_of_le_of_lt (Nat.sub_le _ _) hw))

theorem alphaField_length (s : Bytes) (w : Nat) (hw : w < maxGrow) : (alphaField s w).length = w := by
  by_cases h : w < s.length
  · simp [alphaField_cut s w h]; omega
  · simp [alphaField_fit s w (by omega) hw]; omega

theorem nbsmField_length (s : Bytes) (w : Nat) (hw : w < maxGrow) : (nbsmField s w).length = w := by
  by_cases h : w < s.length
  · simp [nbsmField_cut s w h]; omega
  · simp [nbsmField_fit s w (by omega) hw]; omega

theorem zstrField_length (s : Bytes) (w : Nat) (hw : w < maxGrow) : (zstrField s w).length = w := by
  by_cases h : w < s.length
  · simp [zstrField_cut s w h]; omega
  · simp [zstrField_fit s w (by omega) hw]; omega

theorem numericField_length (n : Int) (w : Nat) (hw : w < maxGrow) : (numericField n w).length = w := by
  by_cases h : w < (itoa n).length
  · simp [numericField_cut n w h]; omega
  · simp [numericField_fit n w (by omega) hw]; omega

theorem digitsW_length' (k n : Nat) : (digitsW k n).length = k := by
  induction k generalizing n with
  | zero => simp [digitsW]
  | succ k ih => simp [digitsW, ih]

theorem fmtDate_length (t : Date) : (fmtDate t).length = 8 := by
  simp [fmtDate, digitsW_length']

theorem fmtTime_length (t : HM) : (fmtTime t).length = 4 := by
  simp [fmtTime, digitsW_length']

theorem blanks_length (n : Nat) : (blanks n).length = n := by simp [blanks]

end Icl
