/-
Chunk independence of the scanner model: for a split function that is stable under extension of
its input (`SplitOK`), the token stream produced by `scan` over ANY chunk schedule equals the
whole-input reference `refScan`, unless the buffer bound is hit.
-/
import IclModel.Scanner
namespace Icl

structure SplitOK (split : SplitFn) : Prop where
  stable_tok : ∀ d e adv t, split d false = (adv, some t, none) → split (d ++ e) false = (adv, some t, none)
  stable_err : ∀ d e adv tok er, split d false = (adv, tok, some er) → split (d ++ e) false = (adv, tok, some er)
  stable_skip : ∀ d e adv, adv ≠ 0 → split d false = (adv, none, none) → split (d ++ e) false = (adv, none, none)
  /-- bufio's contract: never advance beyond the data given -/
  adv_le : ∀ d b adv tok, split d b = (adv, tok, none) → adv ≤ d.length
  tok_progress : ∀ d adv t, split d false = (adv, some t, none) → adv ≠ 0

/-- `drain` with fuel to spare, by recursion on the pending bytes -/
def drainAll (split : SplitFn) (p : Bytes) : List Bytes × Bytes × Option SErr :=
  match split p false with
  | (_, _, some e) => ([], p, some e)
  | (adv, some t, none) =>
    if adv = 0 ∨ p.length < adv then ([], p, some .badAdvance)
    else Prod.map (t :: ·) id (drainAll split (p.drop adv))
  | (adv, none, none) =>
    if adv = 0 then ([], p, none)
    else if p.length < adv then ([], p, some .badAdvance)
    else drainAll split (p.drop adv)
termination_by p.length
decreasing_by all_goals (simp only [List.length_drop]; omega)

theorem drain_eq (split : SplitFn) (n : Nat) (p : Bytes) (h : p.length ≤ n) : drain split (n + 1) p = drainAll split p := by
  fun_induction drainAll split p generalizing n with
  | case3 p adv t hs hb ih =>
    obtain ⟨k, rfl⟩ : ∃ k, n = k + 1 := ⟨n - 1, by omega⟩
    rw [drain]
    simp only [hs, hb, if_false, ih k (by simp only [List.length_drop]; omega)]
    rfl
  | case6 p adv hs h0 hb ih =>
    obtain ⟨k, rfl⟩ : ∃ k, n = k + 1 := ⟨n - 1, by omega⟩
    rw [drain]
    simp only [hs, h0, hb, if_false, ih k (by simp only [List.length_drop]; omega)]
  | _ =>
    -- the step ends here, whatever fuel is left
    rw [drain]
    simp only [*, if_true, if_false]

/-- **tokens found in a prefix are the first tokens of the whole**: draining `p ++ r` is draining `p`
and then draining what `p` left over together with `r` -/
theorem drainAll_append (split : SplitFn) (hs : SplitOK split) (p r : Bytes) :
    drainAll split (p ++ r) =
      match drainAll split p with
      | (ts, p', none) => Prod.map (ts ++ ·) id (drainAll split (p' ++ r))
      | (ts, p', some e) => (ts, p' ++ r, some e) := by
  fun_induction drainAll split p with
  | case1 p adv tok e hsp => rw [drainAll, hs.stable_err p r adv tok e hsp]
  | case2 p adv t hsp hb => exact absurd hb (by have := hs.adv_le p false adv _ hsp; have := hs.tok_progress p adv t hsp; omega)
  | case3 p adv t hsp hb ih =>
    have hle : adv ≤ p.length := hs.adv_le p false adv _ hsp
    have hb' : ¬(adv = 0 ∨ (p ++ r).length < adv) := by simp only [List.length_append]; omega
    rw [drainAll, hs.stable_tok p r adv t hsp]
    simp only [hb', if_false, List.drop_append_of_le_length hle, ih]
    rcases drainAll split (p.drop adv) with ⟨ts, p', _ | e⟩ <;> rfl
  | case4 p hsp => rfl
  | case5 p adv hsp h0 hb => exact absurd (hs.adv_le p false adv _ hsp) (by omega)
  | case6 p adv hsp h0 hb ih =>
    have hle : adv ≤ p.length := hs.adv_le p false adv _ hsp
    have hb' : ¬(p ++ r).length < adv := by simp only [List.length_append]; omega
    rw [drainAll, hs.stable_skip p r adv h0 hsp]
    simp only [h0, hb', if_false, List.drop_append_of_le_length hle, ih]

theorem refScan_eq (split : SplitFn) (x : Bytes) :
    refScan split x =
      match drainAll split x with
      | (ts, _, some e) => (ts, some e)
      | (ts, p', none) => Prod.map (ts ++ ·) id (finish split (p'.length + 1) p') := by
  rw [refScan, drain_eq split _ x (Nat.le_refl _)]
  rcases drainAll split x with ⟨ts, p', _ | e⟩ <;> rfl

theorem refScan_append (split : SplitFn) (hs : SplitOK split) (p r : Bytes) :
    refScan split (p ++ r) =
      match drainAll split p with
      | (ts, p', none) => Prod.map (ts ++ ·) id (refScan split (p' ++ r))
      | (ts, _, some e) => (ts, some e) := by
  rw [refScan_eq split (p ++ r), drainAll_append split hs p r]
  rcases drainAll split p with ⟨ts, p', _ | e⟩
  · dsimp only
    rw [refScan_eq split (p' ++ r)]
    rcases drainAll split (p' ++ r) with ⟨ts', p'', _ | e⟩ <;> simp [Prod.map]
  · rfl

/-- **chunk independence**: over any schedule of reads (zero-length reads included) and any buffer
bound, the scanner yields exactly the whole-input reference — or reports ErrTooLong -/
theorem scan_eq_ref (split : SplitFn) (hs : SplitOK split) (max : Nat) (sched : List Nat) (p r : Bytes) :
    scan split max sched p r = refScan split (p ++ r) ∨ (scan split max sched p r).2 = some .tooLong := by
  fun_induction scan split max sched p r with
  | case1 sched p r ts p' e hd =>
    have hra := refScan_append split hs p r
    rw [← drain_eq split _ p (Nat.le_refl _), hd] at hra
    exact .inl hra.symm
  | case2 => exact .inr rfl
  | case3 sched p r ts p' hd hmax hr f =>
    have : r = [] := by simpa using hr
    subst this
    rw [List.append_nil, refScan_eq split p, ← drain_eq split _ p (Nat.le_refl _), hd]
    exact .inl rfl
  | case4 p r ts p' hd hmax hr r' ih | case5 p r ts p' hd hmax hr k s' r' ih =>
    -- the next read: by induction it yields the reference over what is then pending and left, and the
    -- tokens drained so far go in front
    have hra := refScan_append split hs p r
    rw [← drain_eq split _ p (Nat.le_refl _), hd] at hra
    rcases ih with h | h
    · rw [List.append_assoc, List.take_append_drop] at h
      exact .inl (hra.trans (congrArg (Prod.map (ts ++ ·) id) h.symm)).symm
    · exact .inr h

/-- corollary in the form of the property: any two deliveries of the same bytes, with any two buffer
bounds, give the same tokens and the same error — unless one of them hit its buffer bound -/
theorem chunk_independent (split : SplitFn) (hs : SplitOK split) (x : Bytes) (m1 m2 : Nat) (s1 s2 : List Nat)
    (h1 : (scan split m1 s1 [] x).2 ≠ some .tooLong) (h2 : (scan split m2 s2 [] x).2 ≠ some .tooLong) :
    scan split m1 s1 [] x = scan split m2 s2 [] x := by
  rcases scan_eq_ref split hs m1 s1 [] x with a | a
  · rcases scan_eq_ref split hs m2 s2 [] x with b | b
    · rw [a, b]
    · exact absurd b h2
  · exact absurd a h1

end Icl
