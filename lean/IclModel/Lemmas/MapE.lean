/-
The loops of `File.Create` over bundles and cash letters rebuild each element or stop at the first error: `mapE g`.
What is proved of `mapE` once (what every rebuilt element satisfies, a rebuild that is idempotent) holds of `fileBundles`
and `fileCashLetters`; `forMapE_split`: a translated loop whose body rebuilds its element and then updates the locals
from the rebuilt element is `mapE` beside a fold over the list it returns.
-/
import IclModel.BuildRT
namespace Icl.CreateEq
open Icl

def mapE {α : Type} (g : α → Except BErr α) : List α → Except BErr (List α)
  | [] => .ok []
  | x :: r =>
    match g x with
    | .error e => .error e
    | .ok y =>
      match mapE g r with
      | .error e => .error e
      | .ok ys => .ok (y :: ys)

theorem mapE_ok_rec {α : Type} (g : α → Except BErr α) {motive : List α → List α → Prop} (nil : motive [] [])
    (cons : ∀ x y r ys, g x = .ok y → motive r ys → motive (x :: r) (y :: ys)) :
    ∀ (l l' : List α), mapE g l = .ok l' → motive l l' := by
  intro l
  fun_induction mapE g l <;> intro l' h
  case case1 => cases h; exact nil
  case case4 x r y hg ys hr ih => cases h; exact cons x y r ys hg (ih ys hr)
  all_goals cases h

theorem mapE_forall {α : Type} (g : α → Except BErr α) (P : α → Prop) (hP : ∀ x y, g x = .ok y → P y) :
    ∀ (l l' : List α), mapE g l = .ok l' → ∀ y ∈ l', P y :=
  mapE_ok_rec g (fun _ h => by simp at h) fun x y _ _ hg ih z hz => by
    rcases List.mem_cons.mp hz with rfl | hz
    · exact hP x _ hg
    · exact ih z hz

theorem mapE_idem {α : Type} (g : α → Except BErr α) (hg : ∀ x y, g x = .ok y → g y = .ok y) :
    ∀ (l l' : List α), mapE g l = .ok l' → mapE g l' = .ok l' :=
  mapE_ok_rec g rfl fun x y _ _ hx ih => by simp only [mapE, hg x y hx, ih]

theorem mapE_length {α : Type} (g : α → Except BErr α) : ∀ (l l' : List α), mapE g l = .ok l' → l'.length = l.length :=
  mapE_ok_rec g rfl fun _ _ _ _ _ ih => by simp only [List.length_cons, ih]

open BuildRT in
theorem forMapE_split {α : Type} (l : List α) (g : α → Except BErr α) (upd : Env → α → Env)
    (body : α → Env → Except BErr (α × Env))
    (hb : ∀ x σ, body x σ = match g x with | .error e => .error e | .ok y => .ok (y, upd σ y)) :
    ∀ σ, forMapE l σ body = match mapE g l with | .error e => .error e | .ok ys => .ok (ys, ys.foldl upd σ) := by
  induction l with
  | nil => intro σ; rfl
  | cons x r ih =>
    intro σ
    simp only [forMapE, hb, mapE]
    cases g x with
    | error e => rfl
    | ok y =>
      simp only [ih]
      cases mapE g r <;> rfl

/-- what the bundle loop of `File.Create` does to one bundle -/
def gB (m : Model) (b : Bundle Vals) : Except BErr (Bundle Vals) :=
  match bundleValidate b with
  | some f => .error (.bundle, f)
  | none => bundleBuild m b

theorem gB_ok (m : Model) (b b' : Bundle Vals) (h : gB m b = .ok b') :
    bundleValidate b = none ∧ bundleBuild m b = .ok b' := by
  revert h
  fun_cases gB m b <;> intro h
  case case2 hv => exact ⟨hv, h⟩
  all_goals cases h

theorem fileBundles_eq (m : Model) : ∀ l, fileBundles m l = mapE (gB m) l := by
  intro l
  fun_induction fileBundles m l <;> simp_all only [mapE, gB]

/-- the checks of a cash letter in front of its bundle loop (the header check spelt as the translation spells it) -/
def clErr (m : Model) (cl : CashLetter Vals) : Option BErr :=
  (cashLetterValidate m cl).or <|
    ((BuildRT.vOpt m .cashLetterHeader cl.header).or <|
     (firstErr (vErr m .creditItem) cl.creditItems).or <|
     (firstErr (vErr m .credit) cl.credits).or <|
     (firstErr (fun r => match r with | some v => vErr m .rns v | none => some (.file, "RoutingNumberSummary")) cl.rns))

/-- what the cash-letter loop of `File.Create` does to one cash letter -/
def gCL (m : Model) (cl : CashLetter Vals) : Except BErr (CashLetter Vals) :=
  match clErr m cl with
  | some e => .error e
  | none =>
    match fileBundles m cl.bundles with
    | .error e => .error e
    | .ok bs => .ok { cl with bundles := bs }

theorem gCL_ok (m : Model) (cl cl' : CashLetter Vals) (h : gCL m cl = .ok cl') :
    clErr m cl = none ∧ ∃ bs, fileBundles m cl.bundles = .ok bs ∧ cl' = { cl with bundles := bs } := by
  revert h
  fun_cases gCL m cl <;> intro h
  case case3 he bs hbs => exact ⟨he, bs, hbs, (Except.ok.inj h).symm⟩
  all_goals cases h

theorem fileCashLetters_eq (m : Model) : ∀ l, fileCashLetters m l = mapE (gCL m) l := by
  intro l
  induction l with
  | nil => rfl
  | cons cl r ih =>
    simp only [fileCashLetters, mapE, gCL, ih]
    change (match clErr m cl with | some e => _ | none => _) = _
    cases clErr m cl with
    | some e => rfl
    | none =>
      cases fileBundles m cl.bundles with
      | error e => rfl
      | ok bs => cases mapE (gCL m) r <;> rfl

end Icl.CreateEq
