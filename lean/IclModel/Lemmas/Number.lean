/-
The numbering of the items of a bundle, said once for forward and return items: thread the counter through
`seqOf`, stamp each item with the number it ends up with.  `numberChecks` and `numberReturns` (Build.lean) are the
two instances `numberWith stampC` / `numberWith stampR`; what holds of both is proved about `numberWith`.
-/
import IclModel.Build
import IclModel.Lemmas.Vals
namespace Icl

theorem zipSet_recNums (vs : List Vals) (f : Vals → Int → Vals) (L : Nat) :
    zipSet vs f (recNums L vs.length) = vs.mapIdx fun i v => f v ((i % L + 1 : Nat) : Int) := by
  apply List.ext_getElem <;> simp [zipSet, recNums]

def stampC (seq : Int) (cd : Item Vals) : Item Vals :=
  { cd with
    detail := cd.detail.setS "EceInstitutionItemSequenceNumber" (numericField seq 15),
    addA := zipSet cd.addA (fun v n => (v.setS "BOFDItemSequenceNumber" (numericField seq 15)).setI "RecordNumber" n) (recNums 9 cd.addA.length),
    addC := zipSet cd.addC (fun v n => (v.setS "EndorsingBankItemSequenceNumber" (itoa seq)).setI "RecordNumber" n) (recNums 99 cd.addC.length) }

def stampR (seq : Int) (rd : Item Vals) : Item Vals :=
  { rd with
    detail := rd.detail.setS "EceInstitutionItemSequenceNumber" (itoa seq),
    addA := zipSet rd.addA (fun v n => (v.setS "BOFDItemSequenceNumber" (itoa seq)).setI "RecordNumber" n) (recNums 9 rd.addA.length),
    addD := zipSet rd.addD (fun v n => (v.setS "EndorsingBankItemSequenceNumber" (itoa seq)).setI "RecordNumber" n) (recNums 99 rd.addD.length) }

def numberWith (stamp : Int → Item Vals → Item Vals) : Int → List (Item Vals) → List (Item Vals)
  | _, [] => []
  | c, it :: r => stamp (seqOf c it) it :: numberWith stamp (seqOf c it + 1) r

theorem numberChecks_eq : ∀ (l : List (Item Vals)) (c : Int), numberChecks c l = numberWith stampC c l
  | [], _ => rfl
  | cd :: r, c => by rw [numberChecks, numberWith, numberChecks_eq r]; rfl

theorem numberReturns_eq : ∀ (l : List (Item Vals)) (c : Int), numberReturns c l = numberWith stampR c l
  | [], _ => rfl
  | rd :: r, c => by rw [numberReturns, numberWith, numberReturns_eq r]; rfl

theorem numberWith_map {β : Type} (stamp : Int → Item Vals → Item Vals) (g : Item Vals → β)
    (hg : ∀ s it, g (stamp s it) = g it) : ∀ (l : List (Item Vals)) (c : Int), (numberWith stamp c l).map g = l.map g
  | [], _ => rfl
  | it :: r, c => by rw [numberWith, List.map_cons, List.map_cons, hg, numberWith_map stamp g hg r]

theorem numberWith_length (stamp : Int → Item Vals → Item Vals) (l : List (Item Vals)) (c : Int) :
    (numberWith stamp c l).length = l.length := by
  have := congrArg List.length (numberWith_map stamp (fun _ => ()) (fun _ _ => rfl) l c)
  simpa using this

theorem numberWith_getElem (stamp : Int → Item Vals → Item Vals) : ∀ (l : List (Item Vals)) (c : Int) (i : Nat)
    (h : i < l.length) (h' : i < (numberWith stamp c l).length),
    ∃ s, (numberWith stamp c l)[i] = stamp s l[i] ∧
      (¬ (l[i].detail.s "EceInstitutionItemSequenceNumber").isEmpty → s = parseNum (l[i].detail.s "EceInstitutionItemSequenceNumber"))
  | it :: r, c, 0, _, _ => ⟨seqOf c it, rfl, fun hne => by
      have hne' : ¬ (it.detail.s "EceInstitutionItemSequenceNumber").isEmpty = true := hne
      simp only [List.getElem_cons_zero, seqOf, hne']; rfl⟩
  | it :: r, c, i + 1, h, h' => by
      simp only [numberWith, List.getElem_cons_succ]
      exact numberWith_getElem stamp r _ i (by simpa using h) (by simpa [numberWith] using h')

namespace ClBuildEq

def numberB (n : Nat) (b : Bundle Vals) (h : Vals) : Bundle Vals :=
  { b with header := some (h.setS "BundleSequenceNumber" (numericField n 4)),
           checks := numberChecks 1 b.checks, returns := numberReturns 1 b.returns }

end ClBuildEq
open ClBuildEq

theorem buildBundles_cons (m : Model) (n : Nat) (b : Bundle Vals) (r : List (Bundle Vals)) (hd : Vals) (h : b.header = some hd) :
    buildBundles m n (b :: r) =
      match bundleValidate (numberB n b hd) with
      | some f => .error (.bundle, f)
      | none =>
        match bundleBuild m (numberB n b hd) with
        | .error e => .error e
        | .ok b2 =>
          match buildBundles m (n + 1) r with
          | .error e => .error e
          | .ok rs => .ok (b2 :: rs) := by
  simp only [buildBundles, h]
  rfl

end Icl
