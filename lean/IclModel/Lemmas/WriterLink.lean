/-
The record sequence used by the reassembly theorem (`fileLines`) is the writer walk (`File.flatten`)
of a well-formed file; record by record, the model writer's length-prefixed line is the prefix followed by the
body (`writeLine_lp`).  That the whole output is `joinLP` / `joinNL` of those lines is in Props/C01.lean.
-/
import IclModel.Lemmas.Builder
namespace Icl.C01
open Icl Icl.C04

def unrec (r : Rec) : Kind × Option Vals := (r.1, some r.2.1)

theorem optRec_eq (k : Kind) (l : List Vals) (i : Nat) : optRec k l i = (optVals l i).map (fun v => (k, some v)) := by
  unfold optRec optVals; cases l[i]? <;> rfl

/-- a nil pointer is the one record the writer walk lists and the record walk does not -/
theorem some_filter (k : Kind) (o : Option Vals) :
    [(k, o)].filter (·.2.isSome) = o.toList.map (fun v => (k, some v)) := by cases o <;> rfl

theorem rns_filter (l : List (Option Vals)) :
    (l.filter (·.isSome)).map (fun r => (Kind.rns, r)) = (l.filterMap id).map (fun v => (Kind.rns, some v)) := by
  rw [← filterMap_id_some, List.map_map]; rfl

/-- the record walk, lines dropped, is the writer walk without its nil pointers: both sides are the same expression once
the five levels of either walk are unfolded -/
theorem clRecs_unrec (ln : Kind → Vals → Bytes) (cl : CashLetter Vals) :
    (clRecs ln cl).map unrec = (CashLetter.flatten cl).filter (·.2.isSome) := by
  have ft : ∀ l : List Vals, l.filter (fun _ => true) = l := fun l => List.filter_eq_self.2 fun _ _ => rfl
  simp only [clRecs, bundleRecs, checkRecs, returnRecs, viewRecs, CashLetter.flatten, Bundle.flatten, Item.flatten, optRec_eq,
    List.map_append, List.map_flatMap, List.map_map, List.filter_append, List.filter_flatMap, List.filter_map, some_filter,
    mkRec, unrec, Function.comp_def, rns_filter, Option.isSome_some, ft, if_true, Bool.false_eq_true, if_false,
    List.map_cons, List.map_nil, Option.toList_some, List.append_nil]

theorem foldl_lines {α : Type} (w : α → Option Bytes) (l : List α) (acc : Option Bytes) :
    l.foldl (fun acc x => match acc, w x with | some a, some b => some (a ++ b) | _, _ => none) acc =
      if l.all (fun x => (w x).isSome) then acc.map (· ++ l.flatMap fun x => (w x).getD []) else none := by
  induction l generalizing acc with
  | nil => simp
  | cons x r ih =>
    simp only [List.foldl_cons, ih, List.all_cons, List.flatMap_cons]
    cases acc <;> cases w x <;> simp [-List.all_eq_true]

theorem writeFile_eq (m : Model) (e : Enc) (f : File Vals) :
    writeFile m e f =
      if fileValidate f && f.imageCountsOK && f.flatten.all (fun kr => (writeLine m e kr.1 kr.2).isSome) then
        some (f.flatten.flatMap fun kr => (writeLine m e kr.1 kr.2).getD [])
      else none := by
  unfold writeFile
  cases fileValidate f
  · rfl
  cases f.imageCountsOK
  · rfl
  exact foldl_lines (fun kr : Kind × Option Vals => writeLine m e kr.1 kr.2) f.flatten (some [])

/-- the bytes between the framing for a record (what the reader will see as its line); `[]` when the
encoder fails, so the theorems about it assume the record writable -/
def bodyLn (m : Model) (e : Enc) (k : Kind) (v : Vals) : Bytes := (bodyOf m e.ebcdic k (some v)).getD []

theorem bodyOf_ebcdic (m : Model) (k : Kind) (r : Option Vals) (hk : k ≠ .ivData) :
    bodyOf m true k r = m.cm.encode (lineOf m k r) := by
  unfold bodyOf
  split
  · split
    · exact absurd rfl hk
    · rfl
  · contradiction

/-- every record the writer can emit is shorter than 2^32 (the prefix never wraps): the writer refuses
lengths outside (0, 10^8) -/
theorem writer_length_guard (n : Nat) (h : validSizeInt (n : Int) = true) : n < 4294967296 := by
  simp only [validSizeInt, Bool.and_eq_true, decide_eq_true_eq] at h
  have h2 : (n : Int) < ((100000000 : Nat) : Int) := h.2
  have : n < 100000000 := by exact_mod_cast h2
  omega

theorem writeLine_lp (m : Model) (e : Enc) (hlp : e.lp = true) (k : Kind) (v : Vals) (x : Bytes)
    (hw : writeLine m e k (some v) = some x)
    (hlen : (bodyLn m e k v).length = (lineOf m k (some v)).length) :
    x = be32 (bodyLn m e k v).length ++ bodyLn m e k v ∧ (bodyLn m e k v).length < 4294967296 := by
  unfold writeLine at hw
  unfold bodyLn at hlen ⊢
  generalize bodyOf m e.ebcdic k (some v) = o at hw hlen ⊢
  cases hv : validSizeInt ((lineOf m k (some v)).length : Int) <;> cases o <;>
    simp only [hlp, hv, if_true, Bool.false_eq_true, if_false, Option.some.injEq, reduceCtorEq] at hw
  simp only [Option.getD_some] at hlen ⊢
  exact ⟨by rw [← hw, hlen]; simp, hlen ▸ writer_length_guard _ hv⟩

theorem writeLine_nl (m : Model) (e : Enc) (hlp : e.lp = false) (k : Kind) (v : Vals)
    (hw : (writeLine m e k (some v)).isSome = true) :
    (writeLine m e k (some v)).getD [] = bodyLn m e k v ++ [0x0A] := by
  unfold writeLine bodyLn at *
  simp only [hlp, Bool.false_eq_true, if_false] at hw ⊢
  generalize bodyOf m e.ebcdic k (some v) = o at hw ⊢
  cases o with
  | none => cases hw
  | some b => simp

theorem clRecs_line (ln : Kind → Vals → Bytes) (cl : CashLetter Vals) : ∀ r ∈ clRecs ln cl, r.2.2 = ln r.1 r.2.1 := by
  simp only [clRecs, bundleRecs, checkRecs, returnRecs, viewRecs, mkRec, List.forall_mem_append, List.forall_mem_map,
    List.forall_mem_flatMap, List.forall_mem_singleton, implies_true, and_self]

end Icl.C01
