/-
Reading a member of a record after members were set.  Proofs about concrete records go through these
projections; unfolding `Vals.setS` / `Vals.setI` instead copies the record under every other member, so a chain
of n setters grows like 4^n.  With literal keys: `simp only [Vals.setS_s, .., String.reduceEq, ↓reduceIte]`
(`↓reduceIte` decides each key test before the branches are visited).
-/
import IclModel.Layout
namespace Icl.Vals

theorem ext' (a b : Vals) (hs : ∀ k, a.s k = b.s k) (hi : ∀ k, a.i k = b.i k)
    (hd : ∀ k, a.d k = b.d k) (ht : ∀ k, a.t k = b.t k) : a = b := by
  cases a; cases b
  simp only [Vals.mk.injEq]
  exact ⟨funext hs, funext hi, funext hd, funext ht⟩

theorem setS_s (v : Vals) (k k' : String) (x : Bytes) : (v.setS k x).s k' = if k' = k then x else v.s k' := rfl
theorem setS_i (v : Vals) (k k' : String) (x : Bytes) : (v.setS k x).i k' = v.i k' := rfl
theorem setI_i (v : Vals) (k k' : String) (x : Int) : (v.setI k x).i k' = if k' = k then x else v.i k' := rfl
theorem setI_s (v : Vals) (k k' : String) (x : Int) : (v.setI k x).s k' = v.s k' := rfl
theorem setD_d (v : Vals) (k k' : String) (x : Date) : (v.setD k x).d k' = if k' = k then x else v.d k' := rfl
theorem setD_s (v : Vals) (k k' : String) (x : Date) : (v.setD k x).s k' = v.s k' := rfl

theorem setS_s_self (v : Vals) (k : String) (x : Bytes) : (v.setS k x).s k = x := if_pos rfl
theorem setD_d_self (v : Vals) (k : String) (x : Date) : (v.setD k x).d k = x := if_pos rfl

theorem setI_setS (v : Vals) (k k' : String) (n : Int) (x : Bytes) : (v.setI k n).setS k' x = (v.setS k' x).setI k n := rfl

theorem setS_self (v : Vals) (k : String) : v.setS k (v.s k) = v := by
  apply ext' <;> intro k' <;> try rfl
  rw [setS_s]; split
  · next h => rw [h]
  · rfl

theorem setD_self (v : Vals) (k : String) : v.setD k (v.d k) = v := by
  apply ext' <;> intro k' <;> try rfl
  rw [setD_d]; split
  · next h => rw [h]
  · rfl

theorem setS_setS_same (v : Vals) (k : String) (x y : Bytes) : (v.setS k x).setS k y = v.setS k y := by
  apply ext' <;> intro k' <;> try rfl
  simp only [setS_s]; split <;> rfl

theorem setI_setI_same (v : Vals) (k : String) (x y : Int) : (v.setI k x).setI k y = v.setI k y := by
  apply ext' <;> intro k' <;> try rfl
  simp only [setI_i]; split <;> rfl

theorem stamp_idem (v : Vals) (k r : String) (x : Bytes) (n : Int) :
    (((v.setS k x).setI r n).setS k x).setI r n = (v.setS k x).setI r n := by
  rw [setI_setS, setS_setS_same, setI_setI_same]

end Icl.Vals
