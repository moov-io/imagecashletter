/-
What the translated methods (Gen/BuildT, ClBuildT, CreateT, ValidateT, Walk) share: Go's `len(xs) <= 0` / `len(xs) > 0` on a
slice, `Validate()` through a pointer that is there, reading a local after an assignment, what the loop combinators and
`firstErr` compute, and the tallies of the builds.
-/
import IclModel.BuildRT
namespace Icl.BuildRT

theorem len_le_zero {α : Type} (l : List α) : decide ((l.length : Int) ≤ (0 : Int)) = l.isEmpty := by
  cases l with
  | nil => simp
  | cons x r => simp only [List.length_cons, List.isEmpty_cons, decide_eq_false_iff_not]; omega

theorem len_gt_zero {α : Type} (l : List α) : decide ((l.length : Int) > (0 : Int)) = !l.isEmpty := by
  cases l with
  | nil => simp
  | cons x r => simp only [List.length_cons, List.isEmpty_cons, Bool.not_false, decide_eq_true_eq]; omega

theorem vOpt_some (m : Model) (k : Kind) (v : Vals) : vOpt m k (some v) = vErr m k v := rfl

theorem forEachE_split {α : Type} (l : List α) (val : α → Option BErr) (upd : Env → α → Env) (body : α → Env → Except BErr Env)
    (hb : ∀ x σ, body x σ = match val x with | some e => .error e | none => .ok (upd σ x)) :
    ∀ σ, forEachE l σ body = match firstErr val l with | some e => .error e | none => .ok (l.foldl upd σ) := by
  induction l with
  | nil => intro σ; rfl
  | cons x r ih =>
    intro σ
    simp only [forEachE, hb, firstErr, List.foldl_cons]
    cases val x with
    | some e => rfl
    | none => simp only [ih]

theorem forMap_cons {α : Type} (x : α) (r : List α) (σ : Env) (f : α → Env → α × Env) :
    forMap (x :: r) σ f = ((f x σ).1 :: (forMap r (f x σ).2 f).1, (forMap r (f x σ).2 f).2) := rfl

theorem firstErr_none {α} (f : α → Option BErr) (l : List α) : firstErr f l = none ↔ ∀ x ∈ l, f x = none := by
  induction l with
  | nil => simp [firstErr]
  | cons a r ih =>
    simp only [firstErr]
    cases h : f a with
    | some e => simp [h]
    | none => simp [h, ih]

theorem firstErr_any {α : Type} (p : α → Bool) (e : BErr) (l : List α) :
    firstErr (fun x => if p x then some e else none) l = if l.any p then some e else none := by
  induction l with
  | nil => rfl
  | cons x r ih =>
    simp only [firstErr, List.any_cons]
    by_cases hx : p x = true
    · simp only [hx, if_true, Bool.true_or]
    · simp only [hx, Bool.false_eq_true, if_false, Bool.false_or, ih]

end Icl.BuildRT

namespace Icl.BuildEq

@[simp] theorem get_set (σ : Env) (k k' : String) (x : Int) : (σ.set k x).get k' = if k = k' then x else σ.get k' := rfl

theorem sumInt_eq_sum (l : List Int) : sumInt l = l.sum := List.sum_eq_foldl.symm

theorem sumInt_cons (x : Int) (l : List Int) : sumInt (x :: l) = x + sumInt l := by
  simp only [sumInt_eq_sum, List.sum_cons]

theorem sumInt_nil : sumInt [] = 0 := rfl

theorem sumInt_append (a b : List Int) : sumInt (a ++ b) = sumInt a + sumInt b := by
  simp only [sumInt_eq_sum, List.sum_append]

end Icl.BuildEq

namespace Icl.ClBuildEq
open Icl.BuildEq

def itemsB (b : Bundle Vals) : List (Item Vals) := b.checks ++ b.returns
def amountOf (l : List (Item Vals)) : Int := sumInt (l.map (fun i => i.detail.i "ItemAmount"))
def imagesOf (l : List (Item Vals)) : Int := sumInt (l.map (fun i => (i.ivDetail.length : Int)))

theorem amountOf_append (a b : List (Item Vals)) : amountOf (a ++ b) = amountOf a + amountOf b := by
  simp only [amountOf, List.map_append, sumInt_append]

theorem imagesOf_append (a b : List (Item Vals)) : imagesOf (a ++ b) = imagesOf a + imagesOf b := by
  simp only [imagesOf, List.map_append, sumInt_append]

end Icl.ClBuildEq
