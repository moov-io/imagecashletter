/-
Record-level round trip (C01's per-record premise), for every record kind - fixed width or with
variable-length sections (records 27, 34, 52): when the regenerated `Parse()` is straight-line over the
columns the regenerated `String()` writes (`LayoutOK`, a decidable check established by evaluation for every
record kind, Props/C01Rec.lean: every slice of `Parse()` is, symbolically, the span of the written field it assigns),
parsing the rendering of a canonical record value gives the record back.
-/
import IclModel.Lemmas.Render
import IclModel.Lemmas.Inverse
import IclModel.Lemmas.Vals
import IclModel.Lemmas.ParseTotal
namespace Icl

theorem slice?_mid (pre mid post : Bytes) :
    slice? (pre ++ mid ++ post) (pre.length : Int) ((pre.length + mid.length : Nat) : Int) = some mid := by
  unfold slice?
  rw [if_pos (by simp only [List.length_append]; omega)]
  simp only [Int.toNat_natCast, Nat.add_sub_cancel_left, List.append_assoc, List.drop_left, List.take_left]

/-! ### symbolic offsets: fixed columns plus the lengths announced by named members -/

def isVarConv : Conv → Bool
  | .alphaVar | .bytesVar | .image => true
  | _ => false

structure SymOff where
  c : Nat
  lens : List String
deriving DecidableEq, Repr, Inhabited

/-- bytes of a variable section whose length member is `lf` (0 when the announced length is not a valid size) -/
def widthOfLen (v : Vals) (lf : String) : Nat := (varWidth v lf).getD 0

def sumW (v : Vals) : List String → Nat
  | [] => 0
  | lf :: r => widthOfLen v lf + sumW v r

theorem sumW_append (v : Vals) (a b : List String) : sumW v (a ++ b) = sumW v a + sumW v b := by
  induction a with
  | nil => simp [sumW]
  | cons x r ih => simp [sumW, ih]; omega

def SymOff.val (v : Vals) (o : SymOff) : Nat := o.c + sumW v o.lens

def SymOff.next (o : SymOff) (f : WField) : SymOff :=
  if isVarConv f.conv then ⟨o.c, o.lens ++ [f.lenField]⟩ else ⟨o.c + f.width, o.lens⟩

def spans : List WField → SymOff → List (SymOff × WField)
  | [], _ => []
  | f :: r, o => (o, f) :: spans r (o.next f)

/-- a field's length in bytes is what its symbolic span says (fixed converters: the width; variable
sections: the announced length - for the image, when it is not base64 text) -/
def LenIsSym (b64 : Bytes → Option Bytes) (f : WField) (v : Vals) : Prop :=
  lenOf b64 f v = if isVarConv f.conv then widthOfLen v f.lenField else f.width

theorem next_val (b64 : Bytes → Option Bytes) (o : SymOff) (f : WField) (v : Vals) (h : LenIsSym b64 f v) :
    (o.next f).val v = o.val v + lenOf b64 f v := by
  unfold LenIsSym at h
  unfold SymOff.next SymOff.val
  rw [h]
  cases isVarConv f.conv
  · simp only [Bool.false_eq_true, if_false]; omega
  · simp only [if_true, sumW_append, sumW]; omega

def endOff : List WField → SymOff → SymOff
  | [], o => o
  | f :: r, o => endOff r (o.next f)

theorem endOff_append (a b : List WField) (o : SymOff) : endOff (a ++ b) o = endOff b (endOff a o) := by
  induction a generalizing o with
  | nil => rfl
  | cons f r ih => exact ih _

theorem spans_append (a b : List WField) (o : SymOff) : spans (a ++ b) o = spans a o ++ spans b (endOff a o) := by
  induction a generalizing o with
  | nil => simp [spans, endOff]
  | cons f r ih => simp [spans, endOff, ih]

theorem mem_spans {ws : List WField} {o o' : SymOff} {f : WField} (h : (o', f) ∈ spans ws o) :
    ∃ a b, ws = a ++ f :: b ∧ o' = endOff a o := by
  induction ws generalizing o with
  | nil => cases h
  | cons g r ih =>
    rcases List.mem_cons.1 h with h | h
    · cases h; exact ⟨[], r, rfl, rfl⟩
    · obtain ⟨a, b, rfl, rfl⟩ := ih h
      exact ⟨g :: a, b, rfl, rfl⟩

theorem span_mem_field {ws : List WField} {o o' : SymOff} {f : WField} (h : (o', f) ∈ spans ws o) : f ∈ ws := by
  obtain ⟨a, b, rfl, -⟩ := mem_spans h; simp

theorem endOff_val (b64 : Bytes → Option Bytes) (v : Vals) (ws : List WField) (o : SymOff)
    (hl : ∀ g ∈ ws, LenIsSym b64 g v) : (endOff ws o).val v = o.val v + sumLen b64 true v ws := by
  induction ws generalizing o with
  | nil => rfl
  | cons g r ih =>
    rw [endOff, ih _ fun x hx => hl x (List.mem_cons_of_mem g hx), next_val b64 o g v (hl g List.mem_cons_self)]
    simp [sumLen, Nat.add_assoc]

theorem render_length_endOff (b64 : Bytes → Option Bytes) (v : Vals) (ht : TypeSet v) (ws : List WField)
    (hw : AllWf ws = true) (hl : ∀ g ∈ ws, LenIsSym b64 g v) :
    (render b64 ws true v).length = (endOff ws ⟨0, []⟩).val v := by
  rw [render_length b64 ws true v hw ht, endOff_val b64 v ws _ hl]
  exact (Nat.zero_add _).symm

/-- **the span lemma**: a field listed at symbolic offset `o'` occupies, in the rendering, exactly the
bytes from `o'` to the offset behind it -/
theorem span_split (b64 : Bytes → Option Bytes) (v : Vals) (ht : TypeSet v) :
    ∀ (ws : List WField) (o o' : SymOff) (f : WField), AllWf ws = true → (∀ g ∈ ws, LenIsSym b64 g v) →
      (o', f) ∈ spans ws o →
      ∃ pre post, render b64 ws true v = pre ++ renderField b64 f v ++ post ∧ o.val v + pre.length = o'.val v ∧
        (o'.next f).val v = o'.val v + (renderField b64 f v).length := by
  intro ws o o' f hw hl h
  obtain ⟨a, b, rfl, rfl⟩ := mem_spans h
  simp only [AllWf, List.all_append, List.all_cons, Bool.and_eq_true] at hw
  refine ⟨render b64 a true v, render b64 b true v, ?_, ?_, ?_⟩
  · simp [render_append, render]
  · rw [render_length b64 a true v hw.1 ht, endOff_val b64 v a o fun g hg => hl g (by simp [hg])]
  · rw [next_val b64 _ f v (hl f (by simp)), renderField_length b64 f v hw.2.1 ht]

/-- blanks are trimmed away altogether, and `Atoi` reads the empty string as 0 -/
theorem parseNum_blanks (w : Nat) : parseNum (blanks w) = 0 :=
  congrArg atoi (trimSpace_padded [] 0 w (.inl rfl))

theorem parseDate_blanks8 : parseDate (blanks 8) = Date.zero := by decide

theorem Vals.assign_eq (acc : Vals) (dst : String) (k : PKind) (x : Bytes) :
    acc.assign dst k x =
      match k with
      | .num => acc.setI dst (parseNum x)
      | .str => acc.setS dst (parseStr x)
      | .date => acc.setD dst (parseDate x)
      | .time => acc.setT dst (parseTime x)
      | .raw => acc.setS dst x
      | .bytes => acc.setS dst x := by
  cases k <;> rfl

/-- the announced length of a variable section is a number `Parse()` and `String()` read alike -/
def LenOK (v : Vals) (lf : String) : Prop := 0 ≤ parseNum (v.s lf) ∧ parseNum (v.s lf) < (maxGrow : Int)

theorem widthOfLen_of_lenOK (v : Vals) (lf : String) (h : LenOK v lf) : (widthOfLen v lf : Int) = parseNum (v.s lf) := by
  obtain ⟨h0, hmax⟩ := h
  unfold widthOfLen varWidth
  simp only
  split
  · exact Int.toNat_of_nonneg h0
  · next hv =>
    -- not a valid size, yet below `maxGrow`: the announced length is 0
    simp only [validSizeInt, Bool.and_eq_true, decide_eq_true_eq] at hv
    simp only [Option.getD_none]
    omega

/-- which decoder `Parse()` may use for a getter's column (`raws`: string members stored untrimmed) -/
def compat (raws : List String) (f : WField) : PKind → Bool
  | .str => (f.conv == .alpha && !raws.contains f.src) || f.conv == .nbsm || f.conv == .zstr || f.conv == .alphaVar
  | .raw => f.conv == .alpha && raws.contains f.src
  | .num => f.conv == .numeric || f.conv == .numericBlankNonPos
  | .date => f.conv == .date || f.conv == .dateBlankZero
  | .time => f.conv == .time
  | .bytes => f.conv == .bytesVar || f.conv == .image

/-- what a canonical value of a written field is: it fits its column and the column's decoder returns it -/
def CanonField (b64 : Bytes → Option Bytes) (raws : List String) (f : WField) (v : Vals) : Prop :=
  match f.conv with
  | .alpha => if raws.contains f.src then (v.s f.src).length = f.width else Trimmed (v.s f.src) ∧ (v.s f.src).length ≤ f.width
  | .nbsm => Trimmed (v.s f.src) ∧ (v.s f.src).length ≤ f.width
  | .zstr => Trimmed (v.s f.src) ∧ (v.s f.src).length = f.width
  | .numeric => 0 ≤ v.i f.src ∧ v.i f.src < 9223372036854775808 ∧ (itoa (v.i f.src)).length ≤ f.width
  | .numericBlankNonPos => 0 ≤ v.i f.src ∧ v.i f.src < 9223372036854775808 ∧ (itoa (v.i f.src)).length ≤ f.width
  | .date => (v.d f.src).valid = true
  | .dateBlankZero => (v.d f.src).valid = true
  | .time => (v.t f.src).valid = true ∧ (v.t f.src).z = false
  | .alphaVar => LenOK v f.lenField ∧ Trimmed (v.s f.src) ∧ (v.s f.src).length ≤ widthOfLen v f.lenField
  | .bytesVar => LenOK v f.lenField ∧ (v.s f.src).length = widthOfLen v f.lenField
  | .image => LenOK v f.lenField ∧ b64 (v.s f.src) = none ∧ (v.s f.src).length = widthOfLen v f.lenField
  | _ => True

/-- the effect of a parse statement when the record decodes to `v`: the decoded member takes `v`'s value -/
def replayStmt (now : Date) (sty : List SetAct) (v : Vals) (st : PStmt) (acc : Vals) : Vals :=
  match st with
  | .assign dst _ _ k _ =>
    (match k with
     | .num => acc.setI dst (v.i dst)
     | .str | .raw | .bytes => acc.setS dst (v.s dst)
     | .date => acc.setD dst (v.d dst)
     | .time => acc.setT dst (v.t dst))
  | .lit dst b => acc.setS dst b
  | .setType => applySetType now sty acc
  | _ => acc

def replay (now : Date) (sty : List SetAct) (v : Vals) (ps : List PStmt) (acc : Vals) : Vals :=
  ps.foldl (fun a st => replayStmt now sty v st a) acc

theorem alphaField_full (s : Bytes) (w : Nat) (h : s.length = w) (hw : w < maxGrow) : alphaField s w = s := by
  rw [alphaField_fit _ _ (by omega) hw]; simp [h]

theorem varField_fit (v : Vals) (src lf : String) (h : (v.s src).length ≤ widthOfLen v lf) :
    (match varWidth v lf with | some n => alphaField (v.s src) n | none => []) =
      v.s src ++ List.replicate (widthOfLen v lf - (v.s src).length) SP := by
  unfold widthOfLen at h ⊢
  cases hvw : varWidth v lf with
  | none => simp [List.eq_nil_of_length_eq_zero (by simpa [hvw] using h : (v.s src).length = 0)]
  | some n => exact alphaField_fit _ _ (by simpa [hvw] using h) (varWidth_lt v lf n hvw)

/-- **what each decoder of `Parse()` returns on the column of a canonical field** -/
theorem decode_renderField {b64 : Bytes → Option Bytes} {raws : List String} {f : WField} {v : Vals} {k : PKind}
    (hw : WfW f = true) (hc : CanonField b64 raws f v) (hk : compat raws f k = true) :
    match k with
    | .num => parseNum (renderField b64 f v) = v.i f.src
    | .str => parseStr (renderField b64 f v) = v.s f.src
    | .date => parseDate (renderField b64 f v) = v.d f.src
    | .time => parseTime (renderField b64 f v) = v.t f.src
    | .raw | .bytes => renderField b64 f v = v.s f.src := by
  unfold WfW at hw
  simp only [Bool.and_eq_true, decide_eq_true_eq] at hw
  obtain ⟨hwid, hshape⟩ := hw
  unfold CanonField at hc
  unfold renderField
  -- the decoder first: `compat` then names the one to four converters it may face
  cases k <;> simp only [compat, Bool.or_eq_true, Bool.and_eq_true, beq_iff_eq, Bool.not_eq_true'] at hk ⊢
  · rcases hk with h | h <;> simp only [h] at hc ⊢
    · exact parseNum_numericField _ _ hc.1 hc.2.1 hc.2.2 hwid
    · split
      · rw [parseNum_blanks]; omega
      · exact parseNum_numericField _ _ hc.1 hc.2.1 hc.2.2 hwid
  · rcases hk with ((⟨h, hr⟩ | h) | h) | h <;> simp only [h] at hc ⊢
    · rw [hr] at hc; exact parseStr_alphaField _ _ hc.1 hc.2 hwid
    · exact parseStr_nbsmField _ _ hc.1 hc.2 hwid
    · rw [zstrField_fit _ _ (by omega) hwid, hc.2, Nat.sub_self]; exact trimSpace_trimmed _ hc.1
    · exact (congrArg parseStr (varField_fit v _ _ hc.2.2)).trans (trimSpace_padded _ 0 _ hc.2.1)
  · rcases hk with h | h <;> simp only [h, beq_iff_eq] at hc hshape ⊢
    · exact parseDate_fmtDate _ hc
    · split
      · next hz => rw [hshape, parseDate_blanks8]; exact (by simpa [Date.isZero] using hz : v.d f.src = Date.zero).symm
      · exact parseDate_fmtDate _ hc
  · simp only [hk] at hc ⊢; exact parseTime_fmtTime _ hc.1 hc.2
  · simp only [hk.1, hk.2, if_true] at hc ⊢; exact alphaField_full _ _ hc hwid
  · rcases hk with h | h <;> simp only [h] at hc ⊢
    · exact (varField_fit v _ _ (Nat.le_of_eq hc.2)).trans (by rw [hc.2]; simp)
    · simp only [hc.2.1]; exact (varField_fit v _ _ (Nat.le_of_eq hc.2.2)).trans (by rw [hc.2.2]; simp)

def lookupB : List (String × String) → String → Option String
  | [], _ => none
  | (k, f) :: r, var => if k = var then some f else lookupB r var

def lookupAll (binds : List (String × String)) : List String → Option (List String)
  | [] => some []
  | x :: r =>
    match lookupB binds x, lookupAll binds r with
    | some a, some b => some (a :: b)
    | _, _ => none

/-- a slice bound of `Parse()` as a symbolic offset: its local variables replaced by the length members they hold -/
def symOf (binds : List (String × String)) (o : Off) : Option SymOff :=
  (lookupAll binds o.vars).map (fun ls => ⟨o.c, ls⟩)

/-- the environment `Parse()` has built when the record decodes to `v` -/
def envOf (v : Vals) (binds : List (String × String)) : Env := binds.map (fun p => (p.1, parseNum (v.s p.2)))

theorem envOf_get (v : Vals) (binds : List (String × String)) (var lf : String) (h : lookupB binds var = some lf) :
    (envOf v binds).get var = parseNum (v.s lf) := by
  fun_induction lookupB binds var with
  | case1 => cases h
  | case2 => cases h; exact if_pos rfl
  | case3 k f r var e ih => exact (if_neg e).trans (ih h)

theorem sumVars_envOf (v : Vals) (binds : List (String × String)) (vars ls : List String)
    (h : lookupAll binds vars = some ls) (hl : ∀ lf ∈ ls, LenOK v lf) :
    sumVars (envOf v binds) vars = (sumW v ls : Int) := by
  fun_induction lookupAll binds vars generalizing ls with
  | case1 => cases h; rfl
  | case2 x r lf ls' hr hx ih =>
    cases h
    rw [sumVars_cons, ih ls' hr fun y hy => hl y (List.mem_cons_of_mem lf hy),
      envOf_get v binds x lf hx, ← widthOfLen_of_lenOK v lf (hl lf List.mem_cons_self)]
    simp only [sumW]
    omega
  | case3 => cases h

theorem eval_sym (v : Vals) (binds : List (String × String)) (o : Off) (so : SymOff) (h : symOf binds o = some so)
    (hl : ∀ lf ∈ so.lens, LenOK v lf) : o.eval (envOf v binds) = (so.val v : Int) := by
  obtain ⟨ls, hx, rfl⟩ := Option.map_eq_some_iff.1 h
  rw [Off.eval_eq, sumVars_envOf v binds o.vars ls hx hl]
  exact (Int.natCast_add _ _).symm

structure PSt where
  binds : List (String × String) := []
  assigned : List String := []

def isStrKind : PKind → Bool
  | .str | .raw | .bytes => true
  | _ => false

def varLens (ws : List WField) : List String := (ws.filter (fun f => isVarConv f.conv)).map (·.lenField)

/-- one statement of `Parse()` checked against the write table `ws`: guards that the full rendering passes,
and every assignment decoding, with a decoder that inverts the getter, exactly the span of the written field
of the same member; `none` = not of that shape -/
def stmtStep (ws : List WField) (raws : List String) (st : PStmt) (σ : PSt) : Option PSt :=
  let sp := spans ws ⟨0, []⟩
  let E := endOff ws ⟨0, []⟩
  match st with
  | .guardRunes ne n => if (if ne then E.lens.isEmpty && n == E.c else decide (n ≤ E.c)) then some σ else none
  | .guardBytes n => if n ≤ E.c then some σ else none
  | .guardVar _ var le0 off =>
    match lookupB σ.binds var, symOf σ.binds off with
    | some lf, some so =>
      if !le0 && (varLens ws).contains lf && sp.any (fun p => p.1.next p.2 == so) then some σ else none
    | _, _ => none
  | .bind var field => if σ.assigned.contains field then some { σ with binds := (var, field) :: σ.binds } else none
  | .assign dst lo hi k _ =>
    match symOf σ.binds lo, symOf σ.binds hi with
    | some slo, some shi =>
      match sp.find? (fun p => p.1 == slo) with
      | some (o, f) =>
        if f.src == dst && shi == o.next f && compat raws f k then
          some { σ with assigned := if isStrKind k then dst :: σ.assigned else σ.assigned }
        else none
      | none => none
    | _, _ => none
  | .lit dst _ => if σ.assigned.contains dst then none else some σ
  | .setType => if σ.assigned.isEmpty then some σ else none
  | .opaque => none

def stmtsOK (ws : List WField) (raws : List String) : List PStmt → PSt → Bool
  | [], _ => true
  | st :: r, σ =>
    match stmtStep ws raws st σ with
    | some σ' => stmtsOK ws raws r σ'
    | none => false

/-- string members `Parse()` stores without trimming -/
def rawDsts (ps : List PStmt) : List String :=
  ps.filterMap (fun st => match st with | .assign dst _ _ .raw _ => some dst | _ => none)

def usesRunes : PStmt → Bool
  | .guardRunes _ _ => true
  | .guardVar false _ _ _ => true
  | _ => false

/-- the regenerated `Parse()` of a layout is straight-line over the columns its `String()` writes -/
def LayoutOK (L : RecLayout) : Bool :=
  AllWf L.write && stmtsOK L.write (rawDsts L.parse) L.parse {}

theorem varLens_append (a b : List WField) : varLens (a ++ b) = varLens a ++ varLens b := by
  simp [varLens]

theorem endOff_lens (a : List WField) (o : SymOff) : (endOff a o).lens = o.lens ++ varLens a := by
  induction a generalizing o with
  | nil => simp [endOff, varLens]
  | cons f r ih =>
    rw [endOff, ih]
    cases hv : isVarConv f.conv <;> simp [SymOff.next, varLens, hv]

/-- members a `Parse()` body decodes from the record -/
def assignDsts (ps : List PStmt) : List String :=
  ps.filterMap (fun st => match st with | .assign dst _ _ _ _ => some dst | _ => none)

/-- the fields whose values matter for the round trip: variable sections, and members `Parse()` decodes
(a written member `Parse()` sets to a constant - blank `reserved` columns - may hold anything) -/
def Relevant (dsts : List String) (f : WField) : Prop := isVarConv f.conv = true ∨ f.src ∈ dsts

/-- `LenIsSym` holds by definition of `lenOf` except for the image section, which is canonical when it is not base64 text -/
theorem lenIsSym_all (b64 : Bytes → Option Bytes) (raws dsts : List String) (ws : List WField) (v : Vals)
    (hcanon : ∀ f ∈ ws, Relevant dsts f → CanonField b64 raws f v) : ∀ g ∈ ws, LenIsSym b64 g v := by
  intro g hg
  unfold LenIsSym lenOf widthOfLen
  cases hc : g.conv <;> simp only [isVarConv] <;> try rfl
  have hcg := hcanon g hg (Or.inl (by rw [hc]; rfl))
  unfold CanonField at hcg
  simp only [hc] at hcg
  rw [hcg.2.1]; rfl

theorem lenOK_of_varLens (b64 : Bytes → Option Bytes) (raws dsts : List String) (ws : List WField) (v : Vals)
    (hcanon : ∀ f ∈ ws, Relevant dsts f → CanonField b64 raws f v) {lf : String} (h : lf ∈ varLens ws) : LenOK v lf := by
  simp only [varLens, List.mem_map, List.mem_filter] at h
  obtain ⟨g, ⟨hg, hv⟩, rfl⟩ := h
  have hc := hcanon g hg (Or.inl hv)
  unfold CanonField at hc
  cases hcv : g.conv <;> simp only [hcv, isVarConv] at hc hv <;> first | exact hc.1 | cases hv

theorem spans_lens {ws : List WField} {o : SymOff} {f : WField} (h : (o, f) ∈ spans ws ⟨0, []⟩) {lf : String}
    (hlf : lf ∈ o.lens ∨ lf ∈ (o.next f).lens) : lf ∈ varLens ws := by
  obtain ⟨a, b, rfl, rfl⟩ := mem_spans h
  have e : (endOff a ⟨0, []⟩).next f = endOff (a ++ [f]) ⟨0, []⟩ := (endOff_append a [f] _).symm
  rw [e, endOff_lens, endOff_lens] at hlf
  simp only [List.append_cons a f b, varLens_append, List.nil_append, List.mem_append] at hlf ⊢
  exact .inl (hlf.elim .inl id)

/-- an assignment keeps the stored string members in agreement with `v`: only the string kinds touch `.s` -/
theorem replayStmt_assign_agree (now : Date) (sty : List SetAct) (v acc : Vals) (dst : String) (lo hi : Off) (k : PKind)
    (dc : Bool) {A : List String} (h : ∀ d ∈ A, acc.s d = v.s d) :
    ∀ d ∈ (if isStrKind k then dst :: A else A), (replayStmt now sty v (.assign dst lo hi k dc) acc).s d = v.s d := by
  have hS : ∀ d ∈ dst :: A, (acc.setS dst (v.s dst)).s d = v.s d := fun d hd => by
    rw [Vals.setS_s]
    split
    · next e => rw [e]
    · next e => exact h d ((List.mem_cons.1 hd).resolve_left e)
  cases k with
  | str | raw | bytes => exact hS
  | num | date | time => exact h

/-- the decode flags of the assignments of a `Parse()` body are the ones `DcOK` admits for the field they decode -/
def FlagsOK (DcOK : WField → Bool → Prop) (ws : List WField) (ps : List PStmt) : Prop :=
  ∀ dst lo hi k dc, PStmt.assign dst lo hi k dc ∈ ps → ∀ f ∈ ws, f.src = dst → DcOK f dc

/-- **parsing a carrier of the rendering of a canonical record replays the record** (general form): `R` is any
byte string of the rendering's length in which the span of every field holds bytes that the reader's slice
decoder `dec` (applied or not, as the statement's flag says and `DcOK` admits) turns into the field's rendering.
ASCII: `R` is the rendering itself and `dec = id`; EBCDIC record 52: `R` is the transliterated text followed
by the raw image bytes and `dec` the code-page decoder. -/
theorem parse_render_gen (b64 : Bytes → Option Bytes) (now : Date) (sty : List SetAct) (ws : List WField) (v : Vals)
    (raws dsts : List String) (hwf : AllWf ws = true) (ht : TypeSet v)
    (hcanon : ∀ f ∈ ws, Relevant dsts f → CanonField b64 raws f v)
    (dec : Bytes → Bytes) (R : Bytes) (DcOK : WField → Bool → Prop)
    (hRlen : R.length = (render b64 ws true v).length)
    (hRslice : ∀ (o : SymOff) (f : WField) (pre post : Bytes), (o, f) ∈ spans ws ⟨0, []⟩ →
      render b64 ws true v = pre ++ renderField b64 f v ++ post → pre.length = o.val v →
      ∃ x, slice? R (pre.length : Int) ((pre.length + (renderField b64 f v).length : Nat) : Int) = some x ∧
        ∀ dc, DcOK f dc → (if dc = true then dec x else x) = renderField b64 f v) :
    ∀ (ps : List PStmt) (σ : PSt) (acc : Vals),
      (∀ d ∈ assignDsts ps, d ∈ dsts) →
      (∀ st ∈ ps, usesRunes st = true → runeCount R = R.length) →
      FlagsOK DcOK ws ps →
      (∀ d ∈ σ.assigned, acc.s d = v.s d) →
      stmtsOK ws raws ps σ = true →
      parseStmts dec now sty R ps (envOf v σ.binds) acc = .done (replay now sty v ps acc) := by
  have hsym := lenIsSym_all b64 raws dsts ws v hcanon
  have hlens : ∀ lf ∈ varLens ws, LenOK v lf := fun _ => lenOK_of_varLens b64 raws dsts ws v hcanon
  have hL : R.length = (endOff ws ⟨0, []⟩).val v := hRlen.trans (render_length_endOff b64 v ht ws hwf hsym)
  -- the offset behind a span, as `Parse()` computes it, lies inside the carrier
  have span_le : ∀ {o : SymOff} {f : WField}, (o, f) ∈ spans ws ⟨0, []⟩ → (o.next f).val v ≤ R.length := by
    intro o f hmem
    obtain ⟨pre, post, h1, h2, h3⟩ := span_split b64 v ht ws ⟨0, []⟩ o f hwf hsym hmem
    rw [hRlen, h1, h3, ← h2]; simp only [List.length_append, SymOff.val, sumW]; omega
  -- one statement: a checked statement does on `R` what `replayStmt` says, and the string members it has
  -- stored agree with `v`
  have step : ∀ (st : PStmt) (rest : List PStmt) (σ σ' : PSt) (acc : Vals),
      (∀ dst lo hi k dc, st = .assign dst lo hi k dc → dst ∈ dsts ∧ ∀ f ∈ ws, f.src = dst → DcOK f dc) →
      (usesRunes st = true → runeCount R = R.length) → (∀ d ∈ σ.assigned, acc.s d = v.s d) →
      stmtStep ws raws st σ = some σ' →
      parseStmts dec now sty R (st :: rest) (envOf v σ.binds) acc =
          parseStmts dec now sty R rest (envOf v σ'.binds) (replayStmt now sty v st acc) ∧
        ∀ d ∈ σ'.assigned, (replayStmt now sty v st acc).s d = v.s d := by
    intro st rest σ σ' acc hds hr hag hstep
    cases st with
    | guardRunes ne n =>
      obtain ⟨hc, ⟨⟩⟩ := Option.ite_none_right_eq_some.1 hstep
      refine ⟨?_, hag⟩
      have hrn := hr rfl
      have : ¬ (if ne = true then R.length ≠ n else R.length < n) := by
        cases ne with
        | true =>
          simp only [if_true, Bool.and_eq_true, beq_iff_eq, List.isEmpty_iff] at hc ⊢
          simp only [SymOff.val, hc.1, sumW] at hL
          omega
        | false =>
          simp only [Bool.false_eq_true, if_false, decide_eq_true_eq, SymOff.val] at hc hL ⊢
          omega
      simp only [parseStmts, hrn, this, if_false, replayStmt]
    | guardBytes n =>
      obtain ⟨hc, ⟨⟩⟩ := Option.ite_none_right_eq_some.1 hstep
      refine ⟨?_, hag⟩
      have : ¬ (R.length < n) := by simp only [SymOff.val] at hL; omega
      simp only [parseStmts, this, if_false, replayStmt]
    | guardVar bytes var le0 off =>
      simp only [stmtStep] at hstep
      split at hstep
      case h_2 => cases hstep
      next lf so hlv hso =>
      obtain ⟨hc, ⟨⟩⟩ := Option.ite_none_right_eq_some.1 hstep
      refine ⟨?_, hag⟩
      simp only [Bool.and_eq_true, Bool.not_eq_true', List.any_eq_true, List.contains_iff_mem, beq_iff_eq] at hc
      obtain ⟨⟨hle0, hvl⟩, ⟨⟨o, f⟩, hp, rfl⟩⟩ := hc
      have hev := eval_sym v σ.binds off _ hso fun lf h => hlens lf (spans_lens hp (.inr h))
      have hlen := span_le hp
      have hcnt : (if bytes = true then (R.length : Int) else (runeCount R : Int)) = (R.length : Int) := by
        cases bytes with
        | true => rfl
        | false => simp [hr rfl]
      have : ¬ (parseNum (v.s lf) < 0 ∨ (R.length : Int) < ((o.next f).val v : Int)) := by
        have := (hlens lf hvl).1; omega
      simp only [parseStmts, envOf_get v σ.binds var lf hlv, hev, hcnt, hle0, Bool.false_eq_true, if_false, this, replayStmt]
    | bind var field =>
      obtain ⟨hc, ⟨⟩⟩ := Option.ite_none_right_eq_some.1 hstep
      refine ⟨?_, hag⟩
      simp only [parseStmts, hag field (by simpa using hc), replayStmt, envOf, List.map_cons]
    | assign dst lo hi k dc =>
      simp only [stmtStep] at hstep
      split at hstep
      case h_2 => cases hstep
      next slo shi hlo hhi =>
      split at hstep
      case h_2 => cases hstep
      next o f hfind =>
      obtain ⟨hc, ⟨⟩⟩ := Option.ite_none_right_eq_some.1 hstep
      simp only [Bool.and_eq_true, beq_iff_eq] at hc
      obtain ⟨⟨rfl, rfl⟩, hcompat⟩ := hc
      have hmem : (o, f) ∈ spans ws ⟨0, []⟩ := List.mem_of_find?_eq_some hfind
      obtain rfl : o = slo := by simpa using List.find?_some hfind
      have hfw := span_mem_field hmem
      obtain ⟨pre, post, h1, h2, h3⟩ := span_split b64 v ht ws ⟨0, []⟩ o f hwf hsym hmem
      have h2 : pre.length = o.val v := (Nat.zero_add _).symm.trans h2
      obtain ⟨x, hslx, hdcx⟩ := hRslice o f pre post hmem h1 h2
      obtain ⟨hdst, hfl⟩ := hds _ lo hi k dc rfl
      have hsl : slice? R (lo.eval (envOf v σ.binds)) (hi.eval (envOf v σ.binds)) = some x := by
        rw [eval_sym v σ.binds lo o hlo fun lf h => hlens lf (spans_lens hmem (.inl h)),
          eval_sym v σ.binds hi _ hhi fun lf h => hlens lf (spans_lens hmem (.inr h)), h3, ← h2]
        exact hslx
      constructor
      · -- decoding the rendering of a canonical field gives the field back
        have hdec := decode_renderField (List.all_eq_true.1 hwf f hfw) (hcanon f hfw (Or.inr hdst)) hcompat
        simp only [parseStmts, hsl, hdcx dc (hfl f hfw rfl)]
        cases k <;> simp only [Vals.assign, replayStmt] <;> rw [hdec]
      · exact replayStmt_assign_agree now sty v acc f.src lo hi k dc hag
    | lit dst b =>
      obtain ⟨hc, ⟨⟩⟩ := Option.ite_none_left_eq_some.1 hstep
      refine ⟨by simp only [parseStmts, replayStmt], fun d hd => ?_⟩
      have : d ≠ dst := fun h => hc (by simpa [h] using hd)
      rw [replayStmt, Vals.setS_s, if_neg this]; exact hag d hd
    | setType =>
      obtain ⟨hc, ⟨⟩⟩ := Option.ite_none_right_eq_some.1 hstep
      refine ⟨by simp only [parseStmts, replayStmt], fun d hd => ?_⟩
      rw [List.isEmpty_iff.1 hc] at hd; cases hd
    | «opaque» => cases hstep
  intro ps σ acc hds hr hfl hag hok
  have hA : ∀ dst lo hi k dc, PStmt.assign dst lo hi k dc ∈ ps → dst ∈ dsts ∧ ∀ f ∈ ws, f.src = dst → DcOK f dc :=
    fun dst lo hi k dc h => ⟨hds dst (List.mem_filterMap.2 ⟨_, h, rfl⟩), hfl dst lo hi k dc h⟩
  clear hds hfl
  fun_induction stmtsOK ws raws ps σ generalizing acc with
  | case1 => rfl
  | case2 st rest σ σ' hstep ih =>
    obtain ⟨h1, h2⟩ := step st rest σ σ' acc (fun dst lo hi k dc e => hA dst lo hi k dc (e ▸ List.mem_cons_self))
      (hr st List.mem_cons_self) hag hstep
    rw [h1]
    exact ih _ (fun x hx => hr x (List.mem_cons_of_mem _ hx)) h2 hok
      fun dst lo hi k dc h => hA dst lo hi k dc (List.mem_cons_of_mem _ h)
  | case3 => cases hok

/-- **parsing the rendering of a canonical record replays the record**: for a `Parse()` that passes the
static check against the write table, on the rendering of a value whose fields are canonical -/
theorem parse_render (b64 : Bytes → Option Bytes) (now : Date) (sty : List SetAct) (ws : List WField) (v : Vals)
    (raws dsts : List String) (hwf : AllWf ws = true) (ht : TypeSet v)
    (hcanon : ∀ f ∈ ws, Relevant dsts f → CanonField b64 raws f v)
    (ps : List PStmt) (σ : PSt) (acc : Vals)
    (hds : ∀ d ∈ assignDsts ps, d ∈ dsts)
    (hr : ∀ st ∈ ps, usesRunes st = true → runeCount (render b64 ws true v) = (render b64 ws true v).length)
    (hag : ∀ d ∈ σ.assigned, acc.s d = v.s d) (hok : stmtsOK ws raws ps σ = true) :
    parseStmts id now sty (render b64 ws true v) ps (envOf v σ.binds) acc = .done (replay now sty v ps acc) := by
  exact parse_render_gen b64 now sty ws v raws dsts hwf ht hcanon id _ (fun _ _ => True) rfl
    (fun o f pre post _ h1 _ => ⟨_, h1 ▸ slice?_mid pre _ post, fun dc _ => by cases dc <;> rfl⟩)
    ps σ acc hds hr (fun _ _ _ _ _ _ _ _ _ => trivial) hag hok

end Icl
