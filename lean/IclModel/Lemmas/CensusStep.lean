/-
The simulation between the tree the model reader builds and the X9 nesting automaton (`astep`,
Lemmas/Automaton.lean): one lemma per way a record is attached (to the open cash letter, to the last
item, as a new item, opening or closing a container); Props/C04.lean puts them together by record
kind.  `Rel c a ps`: after the same prefix of the input the reader's record-holding state `c`, the
automaton state `a` and the places `ps` the automaton assigned agree - same open containers, same
counters, and for every place of a record below the file level the reader holds exactly as many
records there as the automaton has assigned.
-/
import IclModel.Lemmas.Census
import IclModel.Lemmas.Automaton
namespace Icl.C04
open Icl

/-- "No bundle open" is not `curBundle = none`: after a bundle control the reader keeps a placeholder
`some { header := none, control := none }` (Tree.lean, mirroring `NewBundle` in reader.go), so a bundle is
open exactly when its header is present (`openB`).  `closedEmpty` and `ctl` say that the placeholder holds
nothing: no items, and a control record only together with a header. -/
structure Rel (c : Core) (a : AState) (ps : List Place) : Prop where
  ok : a.ok = true
  inCL : a.inCL = c.cur.header.isSome
  inB : a.inB = openB c
  cl : a.cl = c.cashLetters.length + (if c.cur.header.isSome then 1 else 0)
  b : c.cur.header.isSome = true → a.b = c.cur.bundles.length + (if openB c then 1 else 0)
  it : openB c = true → ∀ bd, c.curBundle = some bd → a.it = bd.checks.length + bd.returns.length
  notMixed : ∀ bd, c.curBundle = some bd → bd.checks = [] ∨ bd.returns = []
  closedEmpty : openB c = false → ∀ bd, c.curBundle = some bd → bd.checks = [] ∧ bd.returns = []
  ctl : ∀ bd, c.curBundle = some bd → bd.control.isSome = bd.header.isSome
  curEmpty : c.cur.header.isSome = false →
    c.cur.bundles = [] ∧ c.cur.credits = [] ∧ c.cur.creditItems = [] ∧ c.cur.rns = [] ∧ openB c = false
  count : ∀ p, inner p.kind = true → (corePlaces c).count p = ps.count p

theorem rel_init (cur : CashLetter Vals) (h : cur = { header := none, control := none }) :
    Rel ⟨[], cur, none⟩ {} [] := by
  subst h
  refine ⟨rfl, rfl, rfl, rfl, ?_, ?_, ?_, ?_, ?_, ?_, ?_⟩ <;> simp [openB, corePlaces, openPlaces, cashLettersPlaces, cashLetterPlaces, bundlesPlaces]

theorem Rel.openB_cl {c : Core} {a : AState} {ps : List Place} (r : Rel c a ps) (h : openB c = true) :
    c.cur.header.isSome = true := by
  cases hh : c.cur.header.isSome with
  | true => rfl
  | false => have := (r.curEmpty hh).2.2.2.2; rw [h] at this; cases this

theorem rel_clAppend (c : Core) (a : AState) (ps : List Place) (r : Rel c a ps) (k : Kind)
    (hcl : c.cur.header.isSome = true) (cur' : CashLetter Vals)
    (hastep : astep a k = ({ a with ok := a.ok && a.inCL }, ⟨k, a.cl, 0, 0⟩))
    (hh : cur'.header = c.cur.header) (hb : cur'.bundles = c.cur.bundles) (n : Nat)
    (hj : (clMembers c.cur)[slot k]? = some (n, k)) (hm : clMembers cur' = (clMembers c.cur).set (slot k) (n + 1, k)) :
    Rel ⟨c.cashLetters, cur', c.curBundle⟩ (astep a k).1 (ps ++ [(astep a k).2]) := by
  rw [hastep]
  constructor
  case ok => simp [r.ok, r.inCL, hcl]
  case inCL => simpa [hh] using r.inCL
  case inB => exact r.inB
  case cl => simpa [hh] using r.cl
  case b =>
    intro _
    have ho : openB ⟨c.cashLetters, cur', c.curBundle⟩ = openB c := rfl
    rw [ho]
    simpa [hb] using r.b hcl
  case it => exact r.it
  case notMixed => exact r.notMixed
  case closedEmpty => exact r.closedEmpty
  case ctl => exact r.ctl
  case curEmpty => intro h0; simp [hh, hcl] at h0
  case count =>
    intro p hp
    rw [List.count_append, ← r.count p hp]
    simp only [corePlaces, openPlaces, cashLetterPlaces_eq, List.count_append, hh, hb, hm,
      count_members_set _ 0 0 p _ _ n k hj, r.cl, hcl, List.count_cons, List.count_nil, if_true, beq_iff_eq]
    omega

/-- the items of the open bundle (checks or returns, the other list empty) become `l'`, which holds one
record more, at item `l'.length`: a new item, or an attachment to the last one -/
theorem rel_items (c : Core) (a : AState) (ps : List Place) (r : Rel c a ps) (k : Kind) (isCheck : Bool)
    (bd : Bundle Vals) (hcb : c.curBundle = some bd) (hhdr : bd.header.isSome = true)
    (hother : (if isCheck then bd.returns else bd.checks) = []) (l' : List (Item Vals))
    (hast : a.ok = true → a.inB = true → a.it = (if isCheck then bd.checks else bd.returns).length →
      astep a k = ({ a with it := l'.length }, ⟨k, a.cl, a.b, l'.length⟩))
    (hcount : ∀ cl b p, (itemsPlaces isCheck cl b 0 l').count p =
      (itemsPlaces isCheck cl b 0 (if isCheck then bd.checks else bd.returns)).count p +
        (if (⟨k, cl, b, l'.length⟩ : Place) = p then 1 else 0)) :
    Rel ⟨c.cashLetters, c.cur, some (if isCheck then { bd with checks := l' } else { bd with returns := l' })⟩
      (astep a k).1 (ps ++ [(astep a k).2]) := by
  have hopen : openB c = true := by simp [openB, hcb, hhdr]
  have hcl := r.openB_cl hopen
  have hit := r.it hopen bd hcb
  have hb := r.b hcl
  simp only [hopen, if_true] at hb
  rw [hast r.ok (r.inB.trans hopen) (by cases isCheck <;> simp_all)]
  constructor
  case ok => exact r.ok
  case inCL => exact r.inCL
  case inB => cases isCheck <;> simpa [openB, hcb, hhdr] using r.inB
  case cl => exact r.cl
  case b => intro _; cases isCheck <;> simpa [openB, hcb, hhdr, hopen] using r.b hcl
  case it =>
    intro _ bd' hbd'
    cases isCheck <;> simp at hbd' hother <;> subst hbd' <;> simp [hother]
  case notMixed =>
    intro bd' hbd'
    cases isCheck <;> simp at hbd' hother <;> subst hbd' <;> simp [hother]
  case closedEmpty => intro ho; cases isCheck <;> simp [openB, hhdr] at ho
  case ctl =>
    intro bd' hbd'
    have := r.ctl bd hcb
    cases isCheck <;> simp at hbd' <;> subst hbd' <;> simpa using this
  case curEmpty => intro h0; simp [hcl] at h0
  case count =>
    intro p hp
    have := r.count p hp
    rw [List.count_append, ← this]
    simp only [corePlaces, openPlaces, hcb, List.count_append, List.count_cons, List.count_nil, r.cl, hcl, if_true, hb]
    cases isCheck <;> simp only [Bool.false_eq_true, if_false, if_true] at hother hcount ⊢ <;>
      simp only [bundlePlaces, hcount, hother, List.count_append, itemsPlaces, List.count_nil, beq_iff_eq] <;> omega

theorem rel_newItem (c : Core) (a : AState) (ps : List Place) (r : Rel c a ps) (isCheck : Bool)
    (bd : Bundle Vals) (hcb : c.curBundle = some bd) (hhdr : bd.header.isSome = true)
    (hother : (if isCheck then bd.returns else bd.checks) = []) (v : Vals) :
    Rel ⟨c.cashLetters, c.cur,
        some (if isCheck then { bd with checks := bd.checks ++ [{ detail := v }] }
              else { bd with returns := bd.returns ++ [{ detail := v }] })⟩
      (astep a (if isCheck then .checkDetail else .returnDetail)).1
      (ps ++ [(astep a (if isCheck then .checkDetail else .returnDetail)).2]) := by
  have := rel_items c a ps r (if isCheck then .checkDetail else .returnDetail) isCheck bd hcb hhdr hother
    ((if isCheck then bd.checks else bd.returns) ++ [{ detail := v }])
    (fun ho hi hn => by cases isCheck <;> simp [astep, ho, hi, hn])
    (fun cl b p => by
      cases isCheck <;> simp [itemsPlaces_append, itemPlaces, List.count_cons] <;> omega)
  cases isCheck <;> exact this

theorem Rel.places_closed {c : Core} {a : AState} {ps : List Place} (r : Rel c a ps) (h : openB c = false) :
    corePlaces c = cashLettersPlaces 0 c.cashLetters ++ cashLetterPlaces (c.cashLetters.length + 1) false c.cur := by
  rw [corePlaces, openPlaces]
  cases hcb : c.curBundle with
  | none => exact List.append_nil _
  | some bd =>
    have he := r.closedEmpty h bd hcb
    have hh : bd.header.isSome = false := by simpa [openB, hcb] using h
    simp [bundlePlaces, he.1, he.2, hh, itemsPlaces]

theorem Rel.places_idle {c : Core} {a : AState} {ps : List Place} (r : Rel c a ps) (h : c.cur.header.isSome = false) :
    corePlaces c = cashLettersPlaces 0 c.cashLetters := by
  obtain ⟨h1, h2, h3, h4, h5⟩ := r.curEmpty h
  simp [r.places_closed h5, cashLetterPlaces, h, h1, h2, h3, h4, bundlesPlaces]

theorem Rel.count_snoc {c c' : Core} {a : AState} {ps : List Place} (r : Rel c a ps) {x : Place}
    (h : corePlaces c' = corePlaces c ++ [x]) (p : Place) (hp : inner p.kind = true) :
    (corePlaces c').count p = (ps ++ [x]).count p := by
  rw [h, List.count_append, List.count_append, r.count p hp]

theorem rel_bundleHeader (c : Core) (a : AState) (ps : List Place) (r : Rel c a ps)
    (hcl : c.cur.header.isSome = true) (hclosed : openB c = false) (v ctl : Vals) :
    Rel ⟨c.cashLetters, c.cur, some { header := some v, control := some ctl }⟩
      (astep a .bundleHeader).1 (ps ++ [(astep a .bundleHeader).2]) := by
  have hb := r.b hcl
  simp only [hclosed, Bool.false_eq_true, if_false, Nat.add_zero] at hb
  constructor
  case ok => simp [astep, r.ok, r.inCL, r.inB, hcl, hclosed]
  case inCL => simpa [astep] using r.inCL
  case inB => simp [astep, openB]
  case cl => simpa [astep] using r.cl
  case b => intro _; simp [astep, openB, hb]
  case it => intro _ bd' hbd'; simp at hbd'; subst hbd'; simp [astep]
  case notMixed => intro bd' hbd'; simp at hbd'; subst hbd'; simp
  case closedEmpty => intro ho; simp [openB] at ho
  case ctl => intro bd' hbd'; simp at hbd'; subst hbd'; simp
  case curEmpty => intro h0; simp [hcl] at h0
  case count =>
    refine r.count_snoc ?_
    rw [r.places_closed hclosed]
    simp only [corePlaces, openPlaces, astep, r.cl, hcl, if_true, hb, bundlePlaces, itemsPlaces, Option.isSome_some,
      List.append_nil, Bool.false_eq_true, if_false]

theorem rel_bundleControl (c : Core) (a : AState) (ps : List Place) (r : Rel c a ps)
    (bd : Bundle Vals) (hcb : c.curBundle = some bd) (hctl : bd.control.isSome = true) (v : Vals) :
    Rel ⟨c.cashLetters, { c.cur with bundles := c.cur.bundles ++ [{ bd with control := some v }] },
        some { header := none, control := none }⟩
      (astep a .bundleControl).1 (ps ++ [(astep a .bundleControl).2]) := by
  have hhdr : bd.header.isSome = true := by rw [← r.ctl bd hcb]; exact hctl
  have hopen : openB c = true := by simp [openB, hcb, hhdr]
  have hcl := r.openB_cl hopen
  have hb := r.b hcl
  simp only [hopen, if_true] at hb
  constructor
  case ok => simp [astep, r.ok, r.inB, hopen]
  case inCL => simpa [astep] using r.inCL
  case inB => simp [astep, openB]
  case cl => simpa [astep] using r.cl
  case b => intro _; simp [astep, openB, hb]
  case it => intro ho; simp [openB] at ho
  case notMixed => intro bd' hbd'; simp at hbd'; subst hbd'; simp
  case closedEmpty => intro _ bd' hbd'; simp at hbd'; subst hbd'; simp
  case ctl => intro bd' hbd'; simp at hbd'; subst hbd'; simp
  case curEmpty => intro h0; simp [hcl] at h0
  case count =>
    refine r.count_snoc ?_
    simp only [corePlaces, openPlaces, hcb, cashLetterPlaces, bundlesPlaces_append, astep, r.cl, hcl, if_true, hb,
      bundlePlaces, itemsPlaces, Option.isSome_none, Bool.false_eq_true, if_false, List.append_nil, Nat.zero_add, hhdr,
      List.append_assoc]

theorem rel_cashLetterHeader (c : Core) (a : AState) (ps : List Place) (r : Rel c a ps)
    (hcl : c.cur.header.isSome = false) (v ctl : Vals) :
    Rel ⟨c.cashLetters, { header := some v, control := some ctl }, none⟩
      (astep a .cashLetterHeader).1 (ps ++ [(astep a .cashLetterHeader).2]) := by
  have hcl' := r.cl
  simp only [hcl, Bool.false_eq_true, if_false, Nat.add_zero] at hcl'
  constructor
  case ok => simp [astep, r.ok, r.inCL, hcl]
  case inCL => simp [astep]
  case inB => simp [astep, openB]
  case cl => simp [astep, hcl']
  case b => intro _; simp [astep, openB]
  case it => intro ho; simp [openB] at ho
  case notMixed => intro bd' hbd'; simp at hbd'
  case closedEmpty => intro _ bd' hbd'; simp at hbd'
  case ctl => intro bd' hbd'; simp at hbd'
  case curEmpty => intro h0; simp at h0
  case count =>
    refine r.count_snoc ?_
    rw [r.places_idle hcl]
    simp only [corePlaces, openPlaces, cashLetterPlaces, astep, hcl', bundlesPlaces, List.length_nil, List.replicate_zero,
      List.append_nil, Option.isSome_some, if_true, Bool.false_eq_true, if_false]

theorem rel_cashLetterControl (c : Core) (a : AState) (ps : List Place) (r : Rel c a ps)
    (hcl : c.cur.header.isSome = true) (hclosed : openB c = false) (v : Vals) :
    Rel ⟨c.cashLetters ++ [{ c.cur with control := some v }], { header := none, control := none }, none⟩
      (astep a .cashLetterControl).1 (ps ++ [(astep a .cashLetterControl).2]) := by
  constructor
  case ok => simp [astep, r.ok, r.inCL, r.inB, hcl, hclosed]
  case inCL => simp [astep]
  case inB => simp [astep, openB]
  case cl => simp [astep, r.cl, hcl]
  case b => intro h0; simp at h0
  case it => intro ho; simp [openB] at ho
  case notMixed => intro bd' hbd'; simp at hbd'
  case closedEmpty => intro _ bd' hbd'; simp at hbd'
  case ctl => intro bd' hbd'; simp at hbd'
  case curEmpty => intro _; simp [openB]
  case count =>
    refine r.count_snoc ?_
    rw [r.places_closed hclosed]
    simp only [corePlaces, openPlaces, cashLettersPlaces_append, cashLetterPlaces, astep, r.cl, hcl, if_true, bundlesPlaces,
      List.length_nil, List.replicate_zero, List.append_nil, Option.isSome_none, Bool.false_eq_true, if_false, Nat.zero_add,
      List.append_assoc]

theorem rel_fileLevel (c : Core) (a : AState) (ps : List Place) (r : Rel c a ps) (k : Kind)
    (hk : k = .fileHeader ∨ (k = .fileControl ∧ c.cur.header.isSome = false)) :
    Rel c (astep a k).1 (ps ++ [(astep a k).2]) := by
  have hok : (astep a k).1.ok = true := by
    rcases hk with rfl | ⟨rfl, hcl⟩
    · exact r.ok
    · simp [astep, r.ok, r.inCL, hcl]
  have hin : inner (astep a k).2.kind = false := by rcases hk with rfl | ⟨rfl, -⟩ <;> rfl
  rcases hk with rfl | ⟨rfl, -⟩ <;>
    exact ⟨hok, r.inCL, r.inB, r.cl, r.b, r.it, r.notMixed, r.closedEmpty, r.ctl, r.curEmpty, fun p hp => by
      rw [List.count_append, r.count p hp, List.count_singleton, beq_eq_false_iff_ne.2 fun e => by rw [e, hp] at hin; cases hin]
      rfl⟩

end Icl.C04
