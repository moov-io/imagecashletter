/-
Generic theorems about `render` (the model of every record's `String()`): exact length, exact
columns, frame.  They hold for every write table satisfying the decidable predicate `AllWf`; the
regenerated tables are shown to satisfy it by `decide` in Props/C02.lean.
-/
import IclModel.Lemmas.Conv
namespace Icl

/-- converters whose output width does not depend on the record's values -/
def FixedConv : Conv → Bool
  | .lit | .alpha | .numeric | .nbsm | .zstr | .date | .time | .numericBlankNonPos | .dateBlankZero => true
  | _ => false

def WfW (f : WField) : Bool :=
  decide (f.width < maxGrow) &&
  (match f.conv with
   | .lit => f.width == 2 && f.src == "recordType"
   | .date | .dateBlankZero => f.width == 8
   | .time => f.width == 4
   | .alphaVar | .bytesVar | .image => f.width == 0 && f.lenField != ""
   | .opaque => false
   | _ => true)

def AllWf (ws : List WField) : Bool := ws.all WfW
def AllFixed (ws : List WField) : Bool := ws.all (fun f => FixedConv f.conv && !f.imageOnly)

/-- the unexported `recordType` has been set (constructor, `Parse` or `UnmarshalJSON`) -/
def TypeSet (v : Vals) : Prop := (v.s "recordType").length = 2

def lenOf (b64 : Bytes → Option Bytes) (f : WField) (v : Vals) : Nat :=
  match f.conv with
  | .alphaVar | .bytesVar => (varWidth v f.lenField).getD 0
  | .image =>
    match b64 (v.s f.src) with
    | some dec => dec.length
    | none => (varWidth v f.lenField).getD 0
  | _ => f.width

theorem lenOf_fixed (b64 : Bytes → Option Bytes) (f : WField) (v : Vals) (h : FixedConv f.conv = true) :
    lenOf b64 f v = f.width := by
  unfold lenOf; cases hc : f.conv <;> simp [hc, FixedConv] at h ⊢

theorem varWidth_lt (v : Vals) (k : String) (n : Nat) (h : varWidth v k = some n) : n < maxGrow := by
  obtain ⟨hv, ⟨⟩⟩ := Option.ite_none_right_eq_some.1 h
  simp [validSizeInt] at hv
  omega

theorem varField_length (v : Vals) (src k : String) :
    (match varWidth v k with
      | some n => alphaField (v.s src) n
      | none => []).length = (varWidth v k).getD 0 := by
  cases h : varWidth v k with
  | none => simp
  | some n => simp [alphaField_length _ _ (varWidth_lt v k n h)]

theorem renderField_length (b64 : Bytes → Option Bytes) (f : WField) (v : Vals)
    (h : WfW f = true) (ht : TypeSet v) : (renderField b64 f v).length = lenOf b64 f v := by
  unfold WfW at h
  simp only [Bool.and_eq_true, decide_eq_true_eq] at h
  obtain ⟨hw, hc⟩ := h
  unfold renderField lenOf
  cases hcv : f.conv <;> simp only [hcv] at hc ⊢
  · simp at hc; rw [hc.2]; unfold TypeSet at ht; omega
  · exact alphaField_length _ _ hw
  · exact numericField_length _ _ hw
  · exact nbsmField_length _ _ hw
  · exact zstrField_length _ _ hw
  · simp at hc; rw [fmtDate_length]; omega
  · simp at hc; rw [fmtTime_length]; omega
  · split
    · exact blanks_length _
    · exact numericField_length _ _ hw
  · simp at hc
    split
    · exact blanks_length _
    · rw [fmtDate_length]; omega
  · exact varField_length v f.src f.lenField
  · exact varField_length v f.src f.lenField
  · cases b64 (v.s f.src) with
    | some dec => simp
    | none => simp; exact varField_length v f.src f.lenField
  · simp at hc

def fieldBytes (b64 : Bytes → Option Bytes) (incl : Bool) (f : WField) (v : Vals) : Bytes :=
  if f.imageOnly && !incl then [] else renderField b64 f v

def sumLen (b64 : Bytes → Option Bytes) (incl : Bool) (v : Vals) : List WField → Nat
  | [] => 0
  | f :: r => (if f.imageOnly && !incl then 0 else lenOf b64 f v) + sumLen b64 incl v r

theorem render_cons (b64 : Bytes → Option Bytes) (f : WField) (ws : List WField) (incl : Bool) (v : Vals) :
    render b64 (f :: ws) incl v = fieldBytes b64 incl f v ++ render b64 ws incl v := by
  simp [render, fieldBytes]

theorem render_append (b64 : Bytes → Option Bytes) (a b : List WField) (incl : Bool) (v : Vals) :
    render b64 (a ++ b) incl v = render b64 a incl v ++ render b64 b incl v := by
  induction a with
  | nil => simp [render]
  | cons f r ih => simp [render, ih]

/-- **length**: a record is exactly as long as the sum of its field widths -/
theorem render_length (b64 : Bytes → Option Bytes) (ws : List WField) (incl : Bool) (v : Vals)
    (h : AllWf ws = true) (ht : TypeSet v) :
    (render b64 ws incl v).length = sumLen b64 incl v ws := by
  induction ws with
  | nil => simp [render, sumLen]
  | cons f r ih =>
    simp only [AllWf, List.all_cons, Bool.and_eq_true] at h
    simp only [render, sumLen, List.length_append, ih h.2]
    split
    · simp
    · rw [renderField_length b64 f v h.1 ht]

theorem sumLen_fixed (b64 : Bytes → Option Bytes) (ws : List WField) (incl : Bool) (v : Vals)
    (h : AllFixed ws = true) : sumLen b64 incl v ws = fixedWidth ws := by
  induction ws with
  | nil => rfl
  | cons f r ih =>
    simp only [AllFixed, List.all_cons, Bool.and_eq_true, Bool.not_eq_true'] at h
    simp only [sumLen, fixedWidth, ih h.2, h.1.2, Bool.false_and, Bool.false_eq_true, if_false,
      lenOf_fixed b64 f v h.1.1]

/-- **length, fixed-width records**: whatever the values, the record has its tabulated length -/
theorem render_length_fixed (b64 : Bytes → Option Bytes) (ws : List WField) (incl : Bool) (v : Vals)
    (h : AllWf ws = true) (hf : AllFixed ws = true) (ht : TypeSet v) :
    (render b64 ws incl v).length = fixedWidth ws := by
  rw [render_length b64 ws incl v h ht, sumLen_fixed b64 ws incl v hf]

/-- **columns**: the field after the prefix `pre` occupies exactly the columns
`[sumLen pre, sumLen pre + its own length)` and holds exactly its own rendering -/
theorem render_columns (b64 : Bytes → Option Bytes) (pre : List WField) (f : WField) (post : List WField)
    (incl : Bool) (v : Vals) (h : AllWf pre = true) (ht : TypeSet v) :
    ((render b64 (pre ++ f :: post) incl v).drop (sumLen b64 incl v pre)).take
      (fieldBytes b64 incl f v).length = fieldBytes b64 incl f v := by
  rw [render_append, render_cons, ← render_length b64 pre incl v h ht]
  simp

/-- the bytes before a field are the rendering of the fields before it: no field displaces a neighbour -/
theorem render_prefix (b64 : Bytes → Option Bytes) (pre post : List WField)
    (incl : Bool) (v : Vals) (h : AllWf pre = true) (ht : TypeSet v) :
    (render b64 (pre ++ post) incl v).take (sumLen b64 incl v pre) = render b64 pre incl v := by
  rw [render_append, ← render_length b64 pre incl v h ht]
  simp

theorem varWidth_setS (v : Vals) (k lf : String) (x : Bytes) (h : lf ≠ k) :
    varWidth (v.setS k x) lf = varWidth v lf := by
  simp [varWidth, Vals.setS, h]

def AgreeOn (f : WField) (v v' : Vals) : Prop :=
  v'.s f.src = v.s f.src ∧ v'.s f.lenField = v.s f.lenField ∧ v'.i f.src = v.i f.src ∧
  v'.d f.src = v.d f.src ∧ v'.t f.src = v.t f.src

theorem renderField_congr (b64 : Bytes → Option Bytes) (f : WField) (v v' : Vals) (h : AgreeOn f v v') :
    renderField b64 f v' = renderField b64 f v := by
  obtain ⟨h1, h2, h3, h4, h5⟩ := h
  simp only [renderField, varWidth, h1, h2, h3, h4, h5]

theorem render_congr (b64 : Bytes → Option Bytes) (ws : List WField) (incl : Bool) (v v' : Vals)
    (h : ∀ f ∈ ws, AgreeOn f v v') : render b64 ws incl v' = render b64 ws incl v := by
  induction ws with
  | nil => rfl
  | cons f r ih =>
    simp only [render, ih (fun g hg => h g (List.mem_cons_of_mem f hg)),
      renderField_congr b64 f v v' (h f List.mem_cons_self)]

def Indep (k : String) (ws : List WField) : Bool := ws.all (fun f => f.src != k && f.lenField != k)

theorem indep_ne {k : String} {ws : List WField} (h : Indep k ws = true) {f : WField} (hf : f ∈ ws) :
    f.src ≠ k ∧ f.lenField ≠ k := by
  simpa using List.all_eq_true.1 h f hf

theorem render_setS_indep (b64 : Bytes → Option Bytes) (ws : List WField) (incl : Bool) (v : Vals)
    (k : String) (x : Bytes) (h : Indep k ws = true) :
    render b64 ws incl (v.setS k x) = render b64 ws incl v :=
  render_congr b64 ws incl v _ fun _ hf => by simp [AgreeOn, Vals.setS, indep_ne h hf]

/-- **frame** (string-valued field): setting field `k`, read only by the entry `f`, leaves the bytes
of every other entry unchanged; when `f` is a fixed-width entry the other columns do not move. -/
theorem render_frame_S (b64 : Bytes → Option Bytes) (pre : List WField) (f : WField) (post : List WField)
    (incl : Bool) (v : Vals) (k : String) (x : Bytes)
    (hpre : Indep k pre = true) (hpost : Indep k post = true) :
    render b64 (pre ++ f :: post) incl (v.setS k x) =
      render b64 pre incl v ++ fieldBytes b64 incl f (v.setS k x) ++ render b64 post incl v := by
  rw [render_append, render_cons, render_setS_indep b64 pre incl v k x hpre,
    render_setS_indep b64 post incl v k x hpost, List.append_assoc]

theorem render_setI_indep (b64 : Bytes → Option Bytes) (ws : List WField) (incl : Bool) (v : Vals)
    (k : String) (x : Int) (h : Indep k ws = true) :
    render b64 ws incl (v.setI k x) = render b64 ws incl v :=
  render_congr b64 ws incl v _ fun _ hf => by simp [AgreeOn, Vals.setI, indep_ne h hf]

theorem render_frame_I (b64 : Bytes → Option Bytes) (pre : List WField) (f : WField) (post : List WField)
    (incl : Bool) (v : Vals) (k : String) (x : Int)
    (hpre : Indep k pre = true) (hpost : Indep k post = true) :
    render b64 (pre ++ f :: post) incl (v.setI k x) =
      render b64 pre incl v ++ fieldBytes b64 incl f (v.setI k x) ++ render b64 post incl v := by
  rw [render_append, render_cons, render_setI_indep b64 pre incl v k x hpre,
    render_setI_indep b64 post incl v k x hpost, List.append_assoc]

theorem render_setD_indep (b64 : Bytes → Option Bytes) (ws : List WField) (incl : Bool) (v : Vals)
    (k : String) (x : Date) (h : Indep k ws = true) :
    render b64 ws incl (v.setD k x) = render b64 ws incl v :=
  render_congr b64 ws incl v _ fun _ hf => by simp [AgreeOn, Vals.setD, indep_ne h hf]

theorem render_setT_indep (b64 : Bytes → Option Bytes) (ws : List WField) (incl : Bool) (v : Vals)
    (k : String) (x : HM) (h : Indep k ws = true) :
    render b64 ws incl (v.setT k x) = render b64 ws incl v :=
  render_congr b64 ws incl v _ fun _ hf => by simp [AgreeOn, Vals.setT, indep_ne h hf]

/-- every Go field is read by exactly one table entry (as source or as length field of its own
section): the decidable side condition that makes the frame theorems apply to a whole table -/
def srcsOf (ws : List WField) : List String := ws.map (·.src)

def FixedNotImage (ws : List WField) : Bool := ws.all (fun f => !FixedConv f.conv || !f.imageOnly)

theorem sumLen_filter (b64 : Bytes → Option Bytes) (ws : List WField) (incl : Bool) (v : Vals)
    (h : AllWf ws = true) (hio : FixedNotImage ws = true) :
    sumLen b64 incl v ws
      = fixedWidth ws + sumLen b64 incl v (ws.filter (fun f => !FixedConv f.conv)) := by
  induction ws with
  | nil => simp [sumLen, fixedWidth]
  | cons f r ih =>
    simp only [AllWf, FixedNotImage, List.all_cons, Bool.and_eq_true] at h hio
    have ihr := ih h.2 hio.2
    cases hfc : FixedConv f.conv
    · -- variable entry: width 0
      have hw0 : f.width = 0 := by
        have hw := h.1
        unfold WfW at hw
        cases hc : f.conv <;> simp [hc, FixedConv] at hfc hw <;> exact hw.2.1
      simp [List.filter, hfc, sumLen, fixedWidth, ihr, hw0]; omega
    · have hni : f.imageOnly = false := by simpa [hfc] using hio.1
      simp [List.filter, hfc, sumLen, fixedWidth, ihr, hni, lenOf_fixed b64 f v hfc]; omega

end Icl
