/-
Small facts about lists: reading one entry off a fact that was evaluated once over a whole table, and passing a
Boolean check from a list to its parts.
-/
namespace Icl

theorem map_eq_at {α β γ : Type} {f : α → γ} {g : β → γ} {l : List α} {l' : List β} (h : l.map f = l'.map g)
    (i : Nat) (hi : i < l.length) :
    f l[i] = g (l'[i]'(by have := congrArg List.length h; simp only [List.length_map] at this; omega)) := by
  have := List.getElem_of_eq h (by simpa using hi)
  simpa using this

theorem all_at {α : Type} {p : α → Bool} {l : List α} (h : l.all p = true) (i : Nat) (hi : i < l.length) :
    p l[i] = true :=
  List.all_eq_true.1 h _ (List.getElem_mem hi)

theorem all_of_subset {α : Type} {p : α → Bool} {l l' : List α} (h : l.all p = true) (hs : l' ⊆ l) : l'.all p = true :=
  List.all_eq_true.2 fun x hx => List.all_eq_true.1 h x (hs hx)

end Icl
