/-
Runs of decoded records through the tree builder (`Runs`) and their lift to the model reader's record
loop; the builder (`pushRec`) run over the record sequence the writer walk emits for a well-formed
tree rebuilds that tree: items, bundles, cash letters.
-/
import IclModel.Lemmas.Reassemble
namespace Icl.C01
open Icl Icl.C04

/-- a record of the stream: kind, decoded value, the bytes of its line -/
abbrev Rec := Kind × Vals × Bytes

/-- `Runs m e c rs c'`: every record of `rs` has a line of its kind, long enough, that decodes (under
the reader's options) to its value, and attaching them one after the other leads from `c` to `c'` -/
inductive Runs (m : Model) (e : Enc) : Core → List Rec → Core → Prop
  | nil (c : Core) : Runs m e c [] c
  | cons (c c1 c2 : Core) (k : Kind) (v : Vals) (line : Bytes) (rest : List Rec) :
      kindOfLine line = some k → minLen m e line ≤ line.length →
      recParse m e k line (v0For m c k) = .ok v → pushRec m c k v = some c1 → Runs m e c1 rest c2 →
      Runs m e c ((k, v, line) :: rest) c2

theorem Runs.append {m : Model} {e : Enc} {c c1 c2 : Core} {l1 l2 : List Rec}
    (h1 : Runs m e c l1 c1) (h2 : Runs m e c1 l2 c2) : Runs m e c (l1 ++ l2) c2 := by
  induction h1 with
  | nil c => simpa using h2
  | cons c ca cb k v line rest hk hl hp hpush _ ih =>
    exact Runs.cons c ca c2 k v line (rest ++ l2) hk hl hp hpush (ih h2)

theorem Runs.single {m : Model} {e : Enc} {c c1 : Core} {k : Kind} {v : Vals} {line : Bytes}
    (hk : kindOfLine line = some k) (hl : minLen m e line ≤ line.length)
    (hp : recParse m e k line (v0For m c k) = .ok v) (hpush : pushRec m c k v = some c1) :
    Runs m e c [(k, v, line)] c1 :=
  Runs.cons c c1 c1 k v line [] hk hl hp hpush (Runs.nil c1)

theorem readLines_cons_ok {m : Model} {e : Enc} {l : Bytes} {r : List Bytes} {s s' : RState}
    (hl : minLen m e l ≤ l.length) (hs : rstep m e { s with lineNum := s.lineNum + 1 } l = .ok s') :
    readLines m e (l :: r) s = readLines m e r s' := by
  have : ¬ l.length < minLen m e l := by omega
  simp only [readLines, this, if_false, hs]

theorem readLines_of_runs (m : Model) (e : Enc) (c' : Core) (recs : List Rec) (s : RState)
    (h : Runs m e s.core recs c') :
    ∃ s', readLines m e (recs.map (·.2.2)) s = (s', none) ∧ s'.core = c' ∧
      s'.header = s.header ∧ s'.control = s.control ∧ s'.headerUntouched = s.headerUntouched := by
  generalize hc : s.core = c at h
  induction h generalizing s with
  | nil c => subst hc; exact ⟨s, rfl, rfl, rfl, rfl, rfl⟩
  | cons c ca cb k v line rest hk hl hp hpush _ ih =>
    subst hc
    let s1 : RState := { s with lineNum := s.lineNum + 1 }
    have hcore : s1.core = s.core := rfl
    obtain ⟨s2, hstep, hc2, ho⟩ := rstep_of_push m e s1 line k v ca hk (by rw [hcore]; exact hp) (by rw [hcore]; exact hpush)
    obtain ⟨s3, hr, hc3, h1, h2, h3⟩ := ih s2 hc2
    refine ⟨s3, ?_, hc3, ?_, ?_, ?_⟩
    · rw [List.map_cons, readLines_cons_ok hl hstep]
      exact hr
    · rw [h1, ho.1]
    · rw [h2, ho.2.1]
    · rw [h3, ho.2.2.1]

section
variable (m : Model) (e : Enc) (ln : Kind → Vals → Bytes)

def RecOK (k : Kind) (v : Vals) : Prop :=
  kindOfLine (ln k v) = some k ∧ minLen m e (ln k v) ≤ (ln k v).length ∧ recParse m e k (ln k v) (tmpl m k) = .ok v

def mkRec (k : Kind) (v : Vals) : Rec := (k, v, ln k v)

/-- a run per element, through states indexed by the elements consumed so far, is a run over the
concatenation -/
theorem runs_flatMap {α : Type} (f : α → List Rec) (S : List α → Core) :
    ∀ (l pre : List α), (∀ p x, x ∈ l → Runs m e (S p) (f x) (S (p ++ [x]))) →
      Runs m e (S pre) (l.flatMap f) (S (pre ++ l))
  | [], pre, _ => by simpa using Runs.nil _
  | x :: l, pre, h => by
    have := Runs.append (h pre x (by simp)) (runs_flatMap f S l (pre ++ [x]) (fun p y hy => h p y (by simp [hy])))
    simpa [List.append_assoc] using this

theorem runs_map (k : Kind) (S : List Vals → Core) (hv0 : ∀ c, v0For m c k = tmpl m k) (l : List Vals)
    (hpush : ∀ p v, pushRec m (S p) k v = some (S (p ++ [v]))) (hok : ∀ v ∈ l, RecOK m e ln k v) :
    Runs m e (S []) (l.map (mkRec ln k)) (S l) := by
  rw [List.map_eq_flatMap]
  simpa using runs_flatMap m e (fun v => [mkRec ln k v]) S l [] (fun p v hv =>
    Runs.single (hok v hv).1 (hok v hv).2.1 (by rw [hv0]; exact (hok v hv).2.2) (hpush p v))

end

section
variable (ln : Kind → Vals → Bytes)

def optVals (l : List Vals) (i : Nat) : List Vals := (l[i]?).toList

def viewRecs (it : Item Vals) (i : Nat) : List Rec :=
  (optVals it.ivDetail i).map (mkRec ln .ivDetail) ++ (optVals it.ivData i).map (mkRec ln .ivData) ++
  (optVals it.ivAnalysis i).map (mkRec ln .ivAnalysis)

def checkRecs (it : Item Vals) : List Rec :=
  [mkRec ln .checkDetail it.detail] ++ it.addA.map (mkRec ln .cdAddA) ++ it.addB.map (mkRec ln .cdAddB) ++
  it.addC.map (mkRec ln .cdAddC) ++ (List.range it.ivDetail.length).flatMap (viewRecs ln it)

def returnRecs (it : Item Vals) : List Rec :=
  [mkRec ln .returnDetail it.detail] ++ it.addA.map (mkRec ln .rdAddA) ++ it.addB.map (mkRec ln .rdAddB) ++
  it.addC.map (mkRec ln .rdAddC) ++ it.addD.map (mkRec ln .rdAddD) ++
  (List.range it.ivDetail.length).flatMap (viewRecs ln it)

end

theorem take_succ_optVals (l : List Vals) (i : Nat) : l.take (i + 1) = l.take i ++ optVals l i := by
  simp [optVals, List.take_add_one]

section
variable (m : Model) (e : Enc) (ln : Kind → Vals → Bytes)

def ItemOK (isCheck : Bool) (it : Item Vals) : Prop :=
  RecOK m e ln (if isCheck then .checkDetail else .returnDetail) it.detail ∧
  (∀ v ∈ it.addA, RecOK m e ln (if isCheck then .cdAddA else .rdAddA) v) ∧
  (∀ v ∈ it.addB, RecOK m e ln (if isCheck then .cdAddB else .rdAddB) v) ∧
  (∀ v ∈ it.addC, RecOK m e ln (if isCheck then .cdAddC else .rdAddC) v) ∧
  (∀ v ∈ it.addD, RecOK m e ln .rdAddD v) ∧
  (∀ v ∈ it.ivDetail, RecOK m e ln .ivDetail v) ∧ (∀ v ∈ it.ivData, RecOK m e ln .ivData v) ∧
  (∀ v ∈ it.ivAnalysis, RecOK m e ln .ivAnalysis v)

theorem mem_optVals (l : List Vals) (i : Nat) (v : Vals) (h : v ∈ optVals l i) : v ∈ l :=
  List.mem_of_getElem? (Option.mem_toList.1 h)

/-- the image views of the item being filled, whatever holds it: `S p` is the state in which the item
under construction is `p` -/
theorem runs_views (S : Item Vals → Core) (it : Item Vals)
    (hpD : ∀ p v, pushRec m (S p) .ivDetail v = some (S { p with ivDetail := p.ivDetail ++ [v] }))
    (hpA : ∀ p v, pushRec m (S p) .ivData v = some (S { p with ivData := p.ivData ++ [v] }))
    (hpN : ∀ p v, pushRec m (S p) .ivAnalysis v = some (S { p with ivAnalysis := p.ivAnalysis ++ [v] }))
    (hD : ∀ v ∈ it.ivDetail, RecOK m e ln .ivDetail v) (hA : ∀ v ∈ it.ivData, RecOK m e ln .ivData v)
    (hN : ∀ v ∈ it.ivAnalysis, RecOK m e ln .ivAnalysis v) :
    ∀ n, Runs m e (S { it with ivDetail := [], ivData := [], ivAnalysis := [] }) ((List.range n).flatMap (viewRecs ln it))
      (S { it with ivDetail := it.ivDetail.take n, ivData := it.ivData.take n, ivAnalysis := it.ivAnalysis.take n })
  | 0 => by simpa using Runs.nil _
  | n + 1 => by
    rw [List.range_succ, List.flatMap_append]
    refine Runs.append (runs_views S it hpD hpA hpN hD hA hN n) ?_
    simp only [List.flatMap_cons, List.flatMap_nil, List.append_nil, viewRecs, take_succ_optVals]
    have h1 := runs_map m e ln .ivDetail (fun p => S { it with ivDetail := it.ivDetail.take n ++ p, ivData := it.ivData.take n, ivAnalysis := it.ivAnalysis.take n })
      (fun _ => rfl) (optVals it.ivDetail n) (fun p v => by simp [hpD]) (fun v hv => hD v (mem_optVals _ _ _ hv))
    have h2 := runs_map m e ln .ivData (fun p => S { it with ivDetail := it.ivDetail.take n ++ optVals it.ivDetail n, ivData := it.ivData.take n ++ p, ivAnalysis := it.ivAnalysis.take n })
      (fun _ => rfl) (optVals it.ivData n) (fun p v => by simp [hpA]) (fun v hv => hA v (mem_optVals _ _ _ hv))
    have h3 := runs_map m e ln .ivAnalysis (fun p => S { it with ivDetail := it.ivDetail.take n ++ optVals it.ivDetail n, ivData := it.ivData.take n ++ optVals it.ivData n, ivAnalysis := it.ivAnalysis.take n ++ p })
      (fun _ => rfl) (optVals it.ivAnalysis n) (fun p v => by simp [hpN]) (fun v hv => hN v (mem_optVals _ _ _ hv))
    simp only [List.append_nil] at h1 h2 h3
    exact Runs.append (Runs.append h1 h2) h3

theorem take_views (it : Item Vals) (hd : it.ivData.length ≤ it.ivDetail.length) (ha : it.ivAnalysis.length ≤ it.ivDetail.length) :
    { it with ivDetail := it.ivDetail.take it.ivDetail.length, ivData := it.ivData.take it.ivDetail.length,
              ivAnalysis := it.ivAnalysis.take it.ivDetail.length } = it := by
  cases it; simp_all [List.take_of_length_le]

theorem runs_check (cls : List (CashLetter Vals)) (cur : CashLetter Vals) (b : Bundle Vals) (it : Item Vals)
    (hh : b.header.isSome = true) (hr : b.returns = []) (hok : ItemOK m e ln true it) (hD : it.addD = [])
    (hd : it.ivData.length ≤ it.ivDetail.length) (ha : it.ivAnalysis.length ≤ it.ivDetail.length) :
    Runs m e ⟨cls, cur, some b⟩ (checkRecs ln it) ⟨cls, cur, some { b with checks := b.checks ++ [it] }⟩ := by
  obtain ⟨h0, hA, hB, hC, -, hvD, hvA, hvN⟩ := hok
  obtain ⟨x, hx⟩ := Option.isSome_iff_exists.1 hh
  -- the state while the last check of the open bundle is `p`
  let S (p : Item Vals) : Core := ⟨cls, cur, some { b with checks := b.checks ++ [p] }⟩
  have r0 : Runs m e ⟨cls, cur, some b⟩ [mkRec ln .checkDetail it.detail] (S { detail := it.detail }) :=
    Runs.single h0.1 h0.2.1 h0.2.2 (by simp [pushRec, hx, hr, S])
  have rA := runs_map m e ln .cdAddA (fun p => S { detail := it.detail, addA := p }) (fun _ => rfl) it.addA
    (fun p v => by simp [S, pushRec, coreHasChecks, lastCheckUpd, modifyLast_concat]) hA
  have rB := runs_map m e ln .cdAddB (fun p => S { detail := it.detail, addA := it.addA, addB := p }) (fun _ => rfl) it.addB
    (fun p v => by simp [S, pushRec, coreHasChecks, lastCheckUpd, modifyLast_concat]) hB
  have rC := runs_map m e ln .cdAddC (fun p => S { detail := it.detail, addA := it.addA, addB := it.addB, addC := p })
    (fun _ => rfl) it.addC (fun p v => by simp [S, pushRec, coreHasChecks, lastCheckUpd, modifyLast_concat]) hC
  have rV := runs_views m e ln S it (by simp [S, pushRec, coreHasChecks, lastCheckUpd, modifyLast_concat])
    (by simp [S, pushRec, coreHasChecks, lastCheckUpd, modifyLast_concat])
    (by simp [S, pushRec, coreHasChecks, lastCheckUpd, modifyLast_concat]) hvD hvA hvN it.ivDetail.length
  have e1 : ({ it with ivDetail := [], ivData := [], ivAnalysis := [] } : Item Vals)
      = { detail := it.detail, addA := it.addA, addB := it.addB, addC := it.addC } := by
    cases it; simp_all
  rw [e1, take_views it hd ha] at rV
  exact Runs.append (Runs.append (Runs.append (Runs.append r0 rA) rB) rC) rV

theorem runs_return (cls : List (CashLetter Vals)) (cur : CashLetter Vals) (b : Bundle Vals) (it : Item Vals)
    (hh : b.header.isSome = true) (hc : b.checks = []) (hok : ItemOK m e ln false it)
    (hd : it.ivData.length ≤ it.ivDetail.length) (ha : it.ivAnalysis.length ≤ it.ivDetail.length) :
    Runs m e ⟨cls, cur, some b⟩ (returnRecs ln it) ⟨cls, cur, some { b with returns := b.returns ++ [it] }⟩ := by
  obtain ⟨h0, hA, hB, hC, hDd, hvD, hvA, hvN⟩ := hok
  obtain ⟨x, hx⟩ := Option.isSome_iff_exists.1 hh
  let S (p : Item Vals) : Core := ⟨cls, cur, some { b with returns := b.returns ++ [p] }⟩
  have r0 : Runs m e ⟨cls, cur, some b⟩ [mkRec ln .returnDetail it.detail] (S { detail := it.detail }) :=
    Runs.single h0.1 h0.2.1 h0.2.2 (by simp [pushRec, hx, hc, S])
  have rA := runs_map m e ln .rdAddA (fun p => S { detail := it.detail, addA := p }) (fun _ => rfl) it.addA
    (fun p v => by simp [S, pushRec, coreHasReturns, lastReturnUpd, modifyLast_concat]) hA
  have rB := runs_map m e ln .rdAddB (fun p => S { detail := it.detail, addA := it.addA, addB := p }) (fun _ => rfl) it.addB
    (fun p v => by simp [S, pushRec, coreHasReturns, lastReturnUpd, modifyLast_concat]) hB
  have rC := runs_map m e ln .rdAddC (fun p => S { detail := it.detail, addA := it.addA, addB := it.addB, addC := p })
    (fun _ => rfl) it.addC (fun p v => by simp [S, pushRec, coreHasReturns, lastReturnUpd, modifyLast_concat]) hC
  have rD := runs_map m e ln .rdAddD (fun p => S { detail := it.detail, addA := it.addA, addB := it.addB, addC := it.addC, addD := p })
    (fun _ => rfl) it.addD (fun p v => by simp [S, pushRec, coreHasReturns, lastReturnUpd, modifyLast_concat]) hDd
  have rV := runs_views m e ln S it (by simp [S, pushRec, coreHasChecks, coreHasReturns, hc, lastReturnUpd, modifyLast_concat])
    (by simp [S, pushRec, coreHasChecks, coreHasReturns, hc, lastReturnUpd, modifyLast_concat])
    (by simp [S, pushRec, coreHasChecks, coreHasReturns, hc, lastReturnUpd, modifyLast_concat]) hvD hvA hvN it.ivDetail.length
  have e1 : ({ it with ivDetail := [], ivData := [], ivAnalysis := [] } : Item Vals)
      = { detail := it.detail, addA := it.addA, addB := it.addB, addC := it.addC, addD := it.addD } := by
    cases it; simp_all
  rw [e1, take_views it hd ha] at rV
  exact Runs.append (Runs.append (Runs.append (Runs.append (Runs.append r0 rA) rB) rC) rD) rV

def bundleRecs (b : Bundle Vals) : List Rec :=
  b.header.toList.map (mkRec ln .bundleHeader) ++ b.checks.flatMap (checkRecs ln) ++
  b.returns.flatMap (returnRecs ln) ++ b.control.toList.map (mkRec ln .bundleControl)

/-- well-formedness of an item for the writer walk to emit all its records -/
def ItemWF (isCheck : Bool) (it : Item Vals) : Prop :=
  (isCheck = true → it.addD = []) ∧ it.ivData.length ≤ it.ivDetail.length ∧ it.ivAnalysis.length ≤ it.ivDetail.length

/-- a well-formed bundle: header and control present, one kind of items, accepted by Bundle.Validate,
every record decodable -/
structure BundleOK (b : Bundle Vals) : Prop where
  hdr : ∃ h, b.header = some h ∧ RecOK m e ln .bundleHeader h
  ctl : ∃ c, b.control = some c ∧ RecOK m e ln .bundleControl c
  oneKind : b.checks = [] ∨ b.returns = []
  valid : bundleValidate b = none
  checks : ∀ it ∈ b.checks, ItemOK m e ln true it ∧ ItemWF true it
  returns : ∀ it ∈ b.returns, ItemOK m e ln false it ∧ ItemWF false it

theorem runs_bundle (cls : List (CashLetter Vals)) (cur : CashLetter Vals) (cb0 : Option (Bundle Vals)) (b : Bundle Vals)
    (hcur : cur.header.isSome = true) (hclosed : openB ⟨cls, cur, cb0⟩ = false) (hb : BundleOK m e ln b) :
    Runs m e ⟨cls, cur, cb0⟩ (bundleRecs ln b)
      ⟨cls, { cur with bundles := cur.bundles ++ [b] }, some { header := none, control := none }⟩ := by
  obtain ⟨h, hh, hH⟩ := hb.hdr
  obtain ⟨c, hc, hC⟩ := hb.ctl
  -- the open bundle while its items are read
  let B (ck rt : List (Item Vals)) : Bundle Vals :=
    { header := some h, checks := ck, returns := rt, control := some (tmpl m .bundleControl) }
  have r0 : Runs m e ⟨cls, cur, cb0⟩ [mkRec ln .bundleHeader h] ⟨cls, cur, some (B [] [])⟩ := by
    refine Runs.single hH.1 hH.2.1 hH.2.2 ?_
    have : cur.header.isNone = false := by cases hx : cur.header <;> simp_all
    simp [pushRec, hclosed, this, B]
  have r1 := runs_flatMap m e (checkRecs ln) (fun p => ⟨cls, cur, some (B p [])⟩) b.checks [] (fun p it hit => by
    have ⟨h1, h2, h3, h4⟩ := hb.checks it hit
    simpa [B] using runs_check m e ln cls cur (B p []) it rfl rfl h1 (h2 rfl) h3 h4)
  have r2 : Runs m e ⟨cls, cur, some (B b.checks [])⟩ (b.returns.flatMap (returnRecs ln)) ⟨cls, cur, some (B b.checks b.returns)⟩ := by
    rcases hb.oneKind with hk | hk
    · simpa using runs_flatMap m e (returnRecs ln) (fun p => ⟨cls, cur, some (B b.checks p)⟩) b.returns [] (fun p it hit => by
        have ⟨h1, _, h3, h4⟩ := hb.returns it hit
        simpa [B] using runs_return m e ln cls cur (B b.checks p) it rfl hk h1 h3 h4)
    · rw [hk]; exact Runs.nil _
  have r3 : Runs m e ⟨cls, cur, some (B b.checks b.returns)⟩ [mkRec ln .bundleControl c]
      ⟨cls, { cur with bundles := cur.bundles ++ [b] }, some { header := none, control := none }⟩ := by
    refine Runs.single hC.1 hC.2.1 hC.2.2 ?_
    have hbeq : ({ B b.checks b.returns with control := some c } : Bundle Vals) = b := by
      cases b; simp_all [B]
    simp [pushRec, hbeq, hb.valid, B]
  have := Runs.append (Runs.append (Runs.append r0 r1) r2) r3
  simpa [bundleRecs, hh, hc, List.append_assoc] using this

def clRecs (cl : CashLetter Vals) : List Rec :=
  cl.header.toList.map (mkRec ln .cashLetterHeader) ++ cl.creditItems.map (mkRec ln .creditItem) ++
  cl.credits.map (mkRec ln .credit) ++ cl.bundles.flatMap (bundleRecs ln) ++
  (cl.rns.filterMap id).map (mkRec ln .rns) ++ cl.control.toList.map (mkRec ln .cashLetterControl)

structure CashLetterOK (cl : CashLetter Vals) : Prop where
  hdr : ∃ h, cl.header = some h ∧ RecOK m e ln .cashLetterHeader h
  ctl : ∃ c, cl.control = some c ∧ RecOK m e ln .cashLetterControl c
  rnsSome : ∀ r ∈ cl.rns, r.isSome = true
  valid : cashLetterValidate m cl = none
  creditItems : ∀ v ∈ cl.creditItems, RecOK m e ln .creditItem v
  credits : ∀ v ∈ cl.credits, RecOK m e ln .credit v
  rns : ∀ v ∈ cl.rns.filterMap id, RecOK m e ln .rns v
  bundles : ∀ b ∈ cl.bundles, BundleOK m e ln b

theorem runs_bundles (cls : List (CashLetter Vals)) :
    ∀ (bs : List (Bundle Vals)) (cur : CashLetter Vals) (cb0 : Option (Bundle Vals)), cur.header.isSome = true →
      openB ⟨cls, cur, cb0⟩ = false → (∀ b ∈ bs, BundleOK m e ln b) →
      ∃ cb1, openB ⟨cls, { cur with bundles := cur.bundles ++ bs }, cb1⟩ = false ∧
        Runs m e ⟨cls, cur, cb0⟩ (bs.flatMap (bundleRecs ln)) ⟨cls, { cur with bundles := cur.bundles ++ bs }, cb1⟩
  | [], cur, cb0, _, hcl, _ => ⟨cb0, by simpa using hcl, by simpa using Runs.nil _⟩
  | b :: bs, cur, cb0, hh, hcl, hok => by
    have r1 := runs_bundle m e ln cls cur cb0 b hh hcl (hok b (by simp))
    obtain ⟨cb1, hc1, r2⟩ := runs_bundles cls bs { cur with bundles := cur.bundles ++ [b] } (some { header := none, control := none })
      hh (by simp [openB]) (fun x hx => hok x (by simp [hx]))
    refine ⟨cb1, by simpa [List.append_assoc] using hc1, ?_⟩
    simp only [List.flatMap_cons]
    have := Runs.append r1 r2
    simpa [List.append_assoc] using this

theorem filterMap_id_some (l : List (Option Vals)) : (l.filterMap id).map some = l.filter (·.isSome) := by
  induction l with
  | nil => rfl
  | cons r l ih => cases r <;> simp [ih]

theorem runs_cashLetter (cls : List (CashLetter Vals)) (cur0 : CashLetter Vals) (cb0 : Option (Bundle Vals)) (cl : CashLetter Vals)
    (h0 : cur0.header.isSome = false) (hcl : CashLetterOK m e ln cl) :
    Runs m e ⟨cls, cur0, cb0⟩ (clRecs ln cl) ⟨cls ++ [cl], { header := none, control := none }, none⟩ := by
  obtain ⟨h, hh, hH⟩ := hcl.hdr
  obtain ⟨c, hc, hC⟩ := hcl.ctl
  -- the open cash letter while its members are read
  let C (ci cr : List Vals) (bs : List (Bundle Vals)) (rn : List (Option Vals)) : CashLetter Vals :=
    { header := some h, creditItems := ci, credits := cr, bundles := bs, rns := rn, control := some (tmpl m .cashLetterControl) }
  have r0 : Runs m e ⟨cls, cur0, cb0⟩ [mkRec ln .cashLetterHeader h] ⟨cls, C [] [] [] [], none⟩ :=
    Runs.single hH.1 hH.2.1 hH.2.2 (by simp [pushRec, h0, C])
  have r1 := runs_map m e ln .creditItem (fun p => ⟨cls, C p [] [] [], none⟩) (fun _ => rfl) cl.creditItems
    (fun p v => by simp [pushRec, C]) hcl.creditItems
  have r2 := runs_map m e ln .credit (fun p => ⟨cls, C cl.creditItems p [] [], none⟩) (fun _ => rfl) cl.credits
    (fun p v => by simp [pushRec, C]) hcl.credits
  obtain ⟨cb1, hc1, r3⟩ := runs_bundles m e ln cls cl.bundles (C cl.creditItems cl.credits [] []) none rfl (by simp [openB])
    hcl.bundles
  have r4 := runs_map m e ln .rns (fun p => ⟨cls, C cl.creditItems cl.credits cl.bundles (p.map some), cb1⟩) (fun _ => rfl)
    (cl.rns.filterMap id) (fun p v => by simp [pushRec, C]) hcl.rns
  rw [filterMap_id_some, List.filter_eq_self.2 hcl.rnsSome] at r4
  have r5 : Runs m e ⟨cls, C cl.creditItems cl.credits cl.bundles cl.rns, cb1⟩ [mkRec ln .cashLetterControl c]
      ⟨cls ++ [cl], { header := none, control := none }, none⟩ := by
    refine Runs.single hC.1 hC.2.1 hC.2.2 ?_
    have heq : ({ C cl.creditItems cl.credits cl.bundles cl.rns with control := some c } : CashLetter Vals) = cl := by
      cases cl; simp_all [C]
    have hob : openB ⟨cls, C cl.creditItems cl.credits cl.bundles cl.rns, cb1⟩ = false := by simpa [openB] using hc1
    simp [pushRec, hob, heq, hcl.valid, C]
  have := Runs.append (Runs.append (Runs.append (Runs.append (Runs.append r0 r1) r2) r3) r4) r5
  simpa [clRecs, hh, hc, List.append_assoc] using this

theorem runs_cashLetters (cs cls : List (CashLetter Vals)) (hok : ∀ cl ∈ cs, CashLetterOK m e ln cl) :
    Runs m e ⟨cls, { header := none, control := none }, none⟩ (cs.flatMap (clRecs ln))
      ⟨cls ++ cs, { header := none, control := none }, none⟩ := by
  simpa using runs_flatMap m e (clRecs ln) (fun p => ⟨cls ++ p, { header := none, control := none }, none⟩) cs []
    (fun p cl hcl => by simpa using runs_cashLetter m e ln (cls ++ p) _ none cl rfl (hok cl hcl))

end

end Icl.C01
