/-
Reader-level relaxation (C19): if model `m1` differs from `m0` only in that its record validator
accepts at least what `m0`'s accepts, with the same resulting record, and in the IBM1047 byte
substitution that `m0` never applies, then every input `m0` reads without error is read by `m1`
without error into the same file.

The proof goes through `rstep_ok_iff` (Lemmas/Reassemble.lean): a record is accepted exactly when it
decodes (`recParse`) and attaches (`accept`), and both relax (`Relaxes.recParse`, `Relaxes.accept`).
The two runs are related by `Eqv`: the same tree under construction and the same file-level slots
(the record name and the scratch routing number summary only feed error reports).
-/
import IclModel.Lemmas.Reassemble
namespace Icl.C19
open Icl Icl.C04 Icl.C01

/-- `m1` is `m0` with a validator that accepts at least as much, with the same outcome; `m0` applies no
byte substitution -/
structure Relaxes (m0 m1 : Model) : Prop where
  layouts : m1.layouts = m0.layouts
  cm : m1.cm = m0.cm
  now : m1.now = m0.now
  frb0 : m0.frb = false
  val : ∀ (k : Kind) (v v' : Vals), m0.validateK k v = (none, v') → m1.validateK k v = (none, v')

variable {m0 m1 : Model}

theorem Relaxes.layout (hR : Relaxes m0 m1) (k : Kind) : m1.layout k = m0.layout k := by
  simp [Model.layout, hR.layouts]

theorem Relaxes.tmpl (hR : Relaxes m0 m1) (k : Kind) : tmpl m1 k = tmpl m0 k := by
  cases k <;> simp [C01.tmpl, hR.layout, hR.now]

theorem Relaxes.v0For (hR : Relaxes m0 m1) (c : Core) (k : Kind) : v0For m1 c k = v0For m0 c k := by
  cases k <;> simp [C01.v0For, hR.tmpl]

theorem Relaxes.parseValidate (hR : Relaxes m0 m1) (k : Kind) (dec : Bytes → Bytes) (ln : Bytes) (v0 v : Vals)
    (h : parseValidate m0 k dec ln v0 = .ok v) : parseValidate m1 k dec ln v0 = .ok v := by
  revert h
  fun_cases Icl.parseValidate m0 k dec ln v0 <;> intro h
  case case2 w hp v' hv =>
    simp only [Icl.parseValidate, hR.layout, hR.now, show (m0.layout k).parseRec dec m0.now ln v0 = _ from hp, hR.val k w v' hv]
    exact h
  all_goals cases h

/-- the byte substitution is the identity on `line` whenever `m1` would apply it -/
def NoSubst (m1 : Model) (e : Enc) (line : Bytes) : Prop :=
  kindOfLine line = some .cdAddA → m1.frb = true → e.ebcdic = true → ibm1047 true line = line

theorem noSubst_ascii (m1 : Model) (e : Enc) (he : e.ebcdic = false) (line : Bytes) : NoSubst m1 e line := by
  intro _ _ h; rw [he] at h; cases h

theorem Relaxes.recParse (hR : Relaxes m0 m1) (e : Enc) (k : Kind) (line : Bytes) (v0 v : Vals)
    (hk : kindOfLine line = some k) (hs : NoSubst m1 e line)
    (h : recParse m0 e k line v0 = .ok v) : recParse m1 e k line v0 = .ok v := by
  cases k with
  | cdAddA =>
    have h1 : ibm1047 (m1.frb && e.ebcdic) line = line := by
      cases hc : (m1.frb && e.ebcdic) with
      | false => rfl
      | true => rw [Bool.and_eq_true] at hc; exact hs hk hc.1 hc.2
    simp only [C01.recParse, hR.cm, h1]
    simp only [C01.recParse, hR.frb0, Bool.false_and] at h
    exact hR.parseValidate _ _ _ _ _ h
  | _ => simp only [C01.recParse, hR.cm] at h ⊢; exact hR.parseValidate _ _ _ _ _ h

theorem Relaxes.cashLetterValidate (hR : Relaxes m0 m1) (cl : CashLetter Vals)
    (h : cashLetterValidate m0 cl = none) : cashLetterValidate m1 cl = none := by
  revert h
  fun_cases Icl.cashLetterValidate m0 cl <;> intro h
  case case5 hd hh h1 h2 c hc v' hv =>
    simp only [Icl.cashLetterValidate, hh, h1, h2, hc, hR.val _ _ _ hv, Bool.false_eq_true, if_false]
  all_goals cases h

theorem Relaxes.pushRec (hR : Relaxes m0 m1) (c c' : Core) (k : Kind) (v : Vals)
    (h : pushRec m0 c k v = some c') : pushRec m1 c k v = some c' := by
  cases k with
  | cashLetterControl =>
    simp only [C01.pushRec, Option.ite_none_left_eq_some, Option.isSome_iff_ne_none, ne_eq, Decidable.not_not] at h ⊢
    exact ⟨h.1, h.2.1, h.2.2.1, hR.cashLetterValidate _ h.2.2.2.1, h.2.2.2.2⟩
  | cashLetterHeader | bundleHeader => simpa only [C01.pushRec, hR.tmpl] using h
  | _ => exact h

def Eqv (s t : RState) : Prop := t.core = s.core ∧ sameOuter s t

theorem Eqv.refl (s : RState) : Eqv s s := ⟨rfl, rfl, rfl, rfl, rfl⟩

theorem Relaxes.v0Of (hR : Relaxes m0 m1) (s t : RState) (hst : Eqv s t) (k : Kind) : C01.v0Of m1 t k = C01.v0Of m0 s k := by
  obtain ⟨hc, c1, c2, _, _⟩ := hst
  cases k <;> simp only [C01.v0Of, hc, c1, c2, hR.v0For]

/-- attaching a decoded record: the file-level slots do not consult the validator, the rest is `Relaxes.pushRec` -/
theorem Relaxes.accept (hR : Relaxes m0 m1) (e : Enc) (s s' t : RState) (k : Kind) (line : Bytes) (v : Vals)
    (hst : Eqv s t) (h : C01.accept m0 e s k line v = some s') :
    ∃ t', C01.accept m1 e t k line v = some t' ∧ Eqv s' t' := by
  obtain ⟨hc, c1, c2, c3, c4⟩ := hst
  rcases inner_or k with hin | rfl | rfl
  · rw [(accept_inner m0 e s k line hin).2] at h
    obtain ⟨c', hpush, rfl⟩ := Option.map_eq_some_iff.1 h
    refine ⟨put t k c', ?_, rfl, c1, c2, c3, c4⟩
    rw [(accept_inner m1 e t k line hin).2, hc]
    simp only [hR.pushRec _ _ k v hpush, Option.map_some]
  · simp only [C01.accept, Option.some.injEq] at h
    subst h
    exact ⟨_, rfl, hc, rfl, c2, by simp only [c3, hR.cm], c4⟩
  · simp only [C01.accept, Option.ite_none_left_eq_some, Option.some.injEq] at h ⊢
    obtain ⟨hn, rfl⟩ := h
    refine ⟨_, ⟨?_, rfl⟩, hc, c1, rfl, c3, c4⟩
    rw [c2, show t.cur = s.cur from congrArg Core.cur hc]
    exact hn

theorem Relaxes.rstep (hR : Relaxes m0 m1) (e : Enc) (s s' t : RState) (line : Bytes) (hs : NoSubst m1 e line)
    (hst : Eqv s t) (h : rstep m0 e s line = .ok s') : ∃ t', rstep m1 e t line = .ok t' ∧ Eqv s' t' := by
  obtain ⟨k, hk⟩ := rstep_ok_kind m0 e s s' line h
  obtain ⟨v, hp, ha⟩ := (rstep_ok_iff m0 e s s' line k hk).1 h
  obtain ⟨t', ha', hst'⟩ := hR.accept e s s' t k line v hst ha
  exact ⟨t', (rstep_ok_iff m1 e t t' line k hk).2
    ⟨v, by rw [hR.v0Of s t hst]; exact hR.recParse e k line _ v hk hs hp, ha'⟩, hst'⟩

theorem Relaxes.minLen (hR : Relaxes m0 m1) (e : Enc) (l : Bytes) : minLen m1 e l = minLen m0 e l := by
  simp [Icl.minLen, hR.cm]

theorem Relaxes.readLines (hR : Relaxes m0 m1) (e : Enc) (ls : List Bytes) (hs : ∀ l ∈ ls, NoSubst m1 e l)
    (s sf t : RState) (hst : Eqv s t) (h : readLines m0 e ls s = (sf, none)) :
    ∃ tf, readLines m1 e ls t = (tf, none) ∧ Eqv sf tf := by
  fun_induction Icl.readLines m0 e ls s generalizing t with
  | case1 s =>
    cases h
    exact ⟨t, rfl, hst⟩
  | case2 => simp at h
  | case3 l r s s1 hlen s' hr ih =>
    have hst1 : Eqv s1 { t with lineNum := t.lineNum + 1 } := by
      obtain ⟨hc, c1, c2, c3, c4⟩ := hst
      exact ⟨hc, c1, c2, c3, by show t.lineNum + 1 = s.lineNum + 1; rw [c4]⟩
    obtain ⟨t', ht, hst'⟩ := hR.rstep e _ s' _ l (hs l (by simp)) hst1 hr
    simp only [Icl.readLines, hR.minLen, hlen, if_false, ht]
    exact ih (fun l' hl' => hs l' (by simp [hl'])) t' hst' h
  | case4 => simp at h

end Icl.C19
