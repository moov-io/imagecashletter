/-
Building twice = building once, at the level of `File.Create()` (and `Bundle.build()` inside it):
the rebuilt controls are functions of the items and of the caller-settable members, which a build
carries over unchanged.  Where `New<T>()` of the source stamps `time.Now()` into a fresh control record the model
stamps `m.now`, a constant of the model: the two builds are compared as if run at one time.
-/
import IclModel.Build
import IclModel.Lemmas.Vals
import IclModel.Lemmas.MapE
namespace Icl.C17
open Icl Icl.CreateEq

theorem setS_comm (v : Vals) (k1 k2 : String) (x y : Bytes) (h : k1 ≠ k2) :
    (v.setS k1 x).setS k2 y = (v.setS k2 y).setS k1 x := by
  apply Vals.ext' <;> intro k' <;> try rfl
  simp only [Vals.setS_s]
  by_cases h2 : k' = k2
  · subst h2; rw [if_pos rfl, if_neg (Ne.symm h), if_pos rfl]
  · rw [if_neg h2, if_neg h2]

theorem bundleControlOf_kept (m : Model) (b : Bundle Vals) (old : Vals) (hc : b.control = some old) :
    (bundleControlOf m b).s "ID" = old.s "ID" ∧ (bundleControlOf m b).s "UserField" = old.s "UserField" := by
  simp only [bundleControlOf, hc, Vals.setS_s, String.reduceEq, ↓reduceIte, and_self]

theorem bundleControlOf_idem (m : Model) (b : Bundle Vals) :
    bundleControlOf m { b with control := some (bundleControlOf m b) } = bundleControlOf m b := by
  cases hc : b.control with
  | none =>
    simp only [bundleControlOf, hc]
    rw [Vals.setS_self, Vals.setS_self]
  | some old =>
    obtain ⟨h1, h2⟩ := bundleControlOf_kept m b old hc
    simp only [bundleControlOf, hc] at h1 h2 ⊢
    rw [h1, h2]

theorem bundleBuild_idem (m : Model) (b b' : Bundle Vals) (h : bundleBuild m b = .ok b') :
    bundleBuild m b' = .ok b' := by
  have hb := bundleBuild_ok m b b' h
  subst hb
  unfold bundleBuild at h ⊢
  simp only [bundleControlOf_idem]
  exact h

theorem bundleValidate_control (b : Bundle Vals) (c : Option Vals) :
    bundleValidate { b with control := c } = bundleValidate b := rfl

theorem gB_idem (m : Model) (b b' : Bundle Vals) (h : gB m b = .ok b') : gB m b' = .ok b' := by
  obtain ⟨hv, hb⟩ := gB_ok m b b' h
  have hv' : bundleValidate b' = none := by rw [bundleBuild_ok m b b' hb, bundleValidate_control]; exact hv
  simp only [gB, hv', bundleBuild_idem m b b' hb]

theorem fileBundles_idem (m : Model) (bs bs' : List (Bundle Vals)) (h : fileBundles m bs = .ok bs') :
    fileBundles m bs' = .ok bs' := by
  rw [fileBundles_eq] at h ⊢
  exact mapE_idem _ (gB_idem m) _ _ h

theorem isEmpty_of_length {α : Type} (l l' : List α) (h : l'.length = l.length) : l'.isEmpty = l.isEmpty := by
  cases l <;> cases l' <;> simp_all

theorem fileBundles_isEmpty (m : Model) (bs bs' : List (Bundle Vals)) (h : fileBundles m bs = .ok bs') :
    bs'.isEmpty = bs.isEmpty := by
  rw [fileBundles_eq] at h
  exact isEmpty_of_length _ _ (mapE_length _ _ _ h)

/-- `CashLetter.Validate()` looks at the bundles only to see whether there are any -/
theorem cashLetterValidate_bundles (m : Model) (cl : CashLetter Vals) (bs : List (Bundle Vals))
    (h : bs.isEmpty = cl.bundles.isEmpty) :
    cashLetterValidate m { cl with bundles := bs } = cashLetterValidate m cl := by
  simp only [cashLetterValidate, h]

theorem gCL_idem (m : Model) (cl cl' : CashLetter Vals) (h : gCL m cl = .ok cl') : gCL m cl' = .ok cl' := by
  obtain ⟨hv, bs, hb, rfl⟩ := gCL_ok m cl cl' h
  have hv' : clErr m { cl with bundles := bs } = none := by
    unfold clErr at hv ⊢
    rw [cashLetterValidate_bundles m cl bs (fileBundles_isEmpty m _ _ hb)]; exact hv
  simp only [gCL, hv', fileBundles_idem m _ _ hb]

theorem fileCashLetters_idem (m : Model) (cls cls' : List (CashLetter Vals)) (h : fileCashLetters m cls = .ok cls') :
    fileCashLetters m cls' = .ok cls' := by
  rw [fileCashLetters_eq] at h ⊢
  exact mapE_idem _ (gCL_idem m) _ _ h

theorem fileCashLetters_isEmpty (m : Model) (cls cls' : List (CashLetter Vals)) (h : fileCashLetters m cls = .ok cls') :
    cls'.isEmpty = cls.isEmpty := by
  rw [fileCashLetters_eq] at h
  exact isEmpty_of_length _ _ (mapE_length _ _ _ h)

theorem fileControlOf_congr (m : Model) (f g : File Vals) (cls : List (CashLetter Vals))
    (h1 : g.control.s "ImmediateOriginContactName" = f.control.s "ImmediateOriginContactName")
    (h2 : g.control.s "ImmediateOriginContactPhoneNumber" = f.control.s "ImmediateOriginContactPhoneNumber")
    (h3 : g.control.s "ID" = f.control.s "ID") : fileControlOf m g cls = fileControlOf m f cls := by
  unfold fileControlOf; rw [h1, h2, h3]

theorem fileControlOf_kept (m : Model) (f : File Vals) (cls : List (CashLetter Vals)) (k : String)
    (hk : k = "ImmediateOriginContactName" ∨ k = "ImmediateOriginContactPhoneNumber" ∨ k = "ID") :
    (fileControlOf m f cls).s k = f.control.s k := by
  rcases hk with rfl | rfl | rfl <;>
    simp only [fileControlOf, Vals.setS_s, Vals.setI_s, String.reduceEq, ↓reduceIte]

theorem fileControlOf_idem (m : Model) (f : File Vals) (cls : List (CashLetter Vals)) :
    fileControlOf m { f with cashLetters := cls, control := fileControlOf m f cls } cls = fileControlOf m f cls :=
  fileControlOf_congr m f _ cls (fileControlOf_kept m f cls _ (.inl rfl)) (fileControlOf_kept m f cls _ (.inr (.inl rfl)))
    (fileControlOf_kept m f cls _ (.inr (.inr rfl)))

end Icl.C17
