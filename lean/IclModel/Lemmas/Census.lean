/-
Census of the reader state: which records, under which parents, the reader holds after consuming a
prefix of the input - as a list of places (kind, cash letter, bundle, item), compared by counting with
the places the X9 nesting automaton (Lemmas/Automaton.lean) assigns to the consumed records.
-/
import IclModel.Tree
namespace Icl.C04
open Icl

/-- coordinates of a record: kind, cash letter, bundle, item (1-based; 0 = none) -/
structure Place where
  kind : Kind
  cl : Nat
  b : Nat
  it : Nat
deriving DecidableEq, Repr

variable {α : Type}

/-- every record an item holds (not only those the writer walk would emit) -/
def itemPlaces (isCheck : Bool) (cl b it : Nat) (i : Item α) : List Place :=
  [⟨if isCheck then .checkDetail else .returnDetail, cl, b, it⟩] ++
  List.replicate i.addA.length ⟨if isCheck then .cdAddA else .rdAddA, cl, b, it⟩ ++
  List.replicate i.addB.length ⟨if isCheck then .cdAddB else .rdAddB, cl, b, it⟩ ++
  List.replicate i.addC.length ⟨if isCheck then .cdAddC else .rdAddC, cl, b, it⟩ ++
  List.replicate i.addD.length ⟨.rdAddD, cl, b, it⟩ ++
  List.replicate i.ivDetail.length ⟨.ivDetail, cl, b, it⟩ ++
  List.replicate i.ivData.length ⟨.ivData, cl, b, it⟩ ++
  List.replicate i.ivAnalysis.length ⟨.ivAnalysis, cl, b, it⟩

def spread (cl b it : Nat) (l : List (Nat × Kind)) : List Place :=
  l.flatMap fun nk => List.replicate nk.1 ⟨nk.2, cl, b, it⟩

def members (isCheck : Bool) (i : Item α) : List (Nat × Kind) :=
  [(i.addA.length, if isCheck then .cdAddA else .rdAddA), (i.addB.length, if isCheck then .cdAddB else .rdAddB),
   (i.addC.length, if isCheck then .cdAddC else .rdAddC), (i.addD.length, .rdAddD), (i.ivDetail.length, .ivDetail),
   (i.ivData.length, .ivData), (i.ivAnalysis.length, .ivAnalysis)]

theorem itemPlaces_eq (isCheck : Bool) (cl b it : Nat) (i : Item α) :
    itemPlaces isCheck cl b it i =
      ⟨if isCheck then .checkDetail else .returnDetail, cl, b, it⟩ :: spread cl b it (members isCheck i) := by
  simp [itemPlaces, members, spread]

theorem count_members_set (cl b it : Nat) (p : Place) : ∀ (l : List (Nat × Kind)) (j : Nat) (n : Nat) (k : Kind),
    l[j]? = some (n, k) →
    (spread cl b it (l.set j (n + 1, k))).count p =
      (spread cl b it l).count p + (if (⟨k, cl, b, it⟩ : Place) = p then 1 else 0)
  | [], _, _, _, h => by simp at h
  | x :: l, 0, n, k, h => by
    simp only [List.getElem?_cons_zero, Option.some.injEq] at h
    subst h
    simp only [spread, List.set_cons_zero, List.flatMap_cons, List.count_append, List.count_replicate, beq_iff_eq]
    split <;> omega
  | x :: l, j + 1, n, k, h => by
    simp only [List.getElem?_cons_succ] at h
    have := count_members_set cl b it p l j n k h
    simp only [spread, List.set_cons_succ, List.flatMap_cons, List.count_append] at this ⊢
    omega

/-- where in `members` (item level) or `clMembers` (cash-letter level) a record of kind `k` goes -/
def slot : Kind → Nat
  | .cdAddB | .rdAddB | .credit => 1
  | .cdAddC | .rdAddC | .rns => 2
  | .rdAddD => 3
  | .ivDetail => 4
  | .ivData => 5
  | .ivAnalysis => 6
  | _ => 0

theorem itemPlaces_count_app (isCheck : Bool) (f : Item α → Item α) (k : Kind)
    (h : ∀ x, ∃ n, (members isCheck x)[slot k]? = some (n, k) ∧
      members isCheck (f x) = (members isCheck x).set (slot k) (n + 1, k))
    (cl b it : Nat) (x : Item α) (p : Place) :
    (itemPlaces isCheck cl b it (f x)).count p =
      (itemPlaces isCheck cl b it x).count p + (if (⟨k, cl, b, it⟩ : Place) = p then 1 else 0) := by
  obtain ⟨n, hx, hy⟩ := h x
  rw [itemPlaces_eq, itemPlaces_eq, List.count_cons, List.count_cons, hy, count_members_set cl b it p _ _ n k hx]
  omega

/-- items numbered n+1, n+2, … -/
def itemsPlaces (isCheck : Bool) (cl b : Nat) : Nat → List (Item α) → List Place
  | _, [] => []
  | n, i :: r => itemPlaces isCheck cl b (n + 1) i ++ itemsPlaces isCheck cl b (n + 1) r

theorem itemsPlaces_append (isCheck : Bool) (cl b n : Nat) (l : List (Item α)) (x : Item α) :
    itemsPlaces isCheck cl b n (l ++ [x]) = itemsPlaces isCheck cl b n l ++ itemPlaces isCheck cl b (n + l.length + 1) x := by
  induction l generalizing n with
  | nil => simp [itemsPlaces]
  | cons y r ih =>
    simp only [List.cons_append, itemsPlaces, ih, List.length_cons, List.append_assoc]
    congr 3
    omega

def bundlePlaces (cl b : Nat) (complete : Bool) (bd : Bundle α) : List Place :=
  (if bd.header.isSome then [⟨.bundleHeader, cl, b, 0⟩] else []) ++
  itemsPlaces true cl b 0 bd.checks ++ itemsPlaces false cl b 0 bd.returns ++
  (if complete then [⟨.bundleControl, cl, b, 0⟩] else [])

def bundlesPlaces (cl : Nat) : Nat → List (Bundle α) → List Place
  | _, [] => []
  | n, bd :: r => bundlePlaces cl (n + 1) true bd ++ bundlesPlaces cl (n + 1) r

theorem bundlesPlaces_append (cl n : Nat) (l : List (Bundle α)) (x : Bundle α) :
    bundlesPlaces cl n (l ++ [x]) = bundlesPlaces cl n l ++ bundlePlaces cl (n + l.length + 1) true x := by
  induction l generalizing n with
  | nil => simp [bundlesPlaces]
  | cons y r ih =>
    simp only [List.cons_append, bundlesPlaces, ih, List.length_cons, List.append_assoc]
    congr 3
    omega

/-- a cash letter's records except its open bundle -/
def cashLetterPlaces (cl : Nat) (complete : Bool) (c : CashLetter α) : List Place :=
  (if c.header.isSome then [⟨.cashLetterHeader, cl, 0, 0⟩] else []) ++
  List.replicate c.creditItems.length ⟨.creditItem, cl, 0, 0⟩ ++
  List.replicate c.credits.length ⟨.credit, cl, 0, 0⟩ ++
  List.replicate c.rns.length ⟨.rns, cl, 0, 0⟩ ++
  bundlesPlaces cl 0 c.bundles ++
  (if complete then [⟨.cashLetterControl, cl, 0, 0⟩] else [])

def clMembers (c : CashLetter α) : List (Nat × Kind) :=
  [(c.creditItems.length, .creditItem), (c.credits.length, .credit), (c.rns.length, .rns)]

theorem cashLetterPlaces_eq (cl : Nat) (complete : Bool) (c : CashLetter α) :
    cashLetterPlaces cl complete c = (if c.header.isSome then [⟨.cashLetterHeader, cl, 0, 0⟩] else []) ++
      spread cl 0 0 (clMembers c) ++ bundlesPlaces cl 0 c.bundles ++
      (if complete then [⟨.cashLetterControl, cl, 0, 0⟩] else []) := by
  simp [cashLetterPlaces, clMembers, spread]

def cashLettersPlaces : Nat → List (CashLetter α) → List Place
  | _, [] => []
  | n, c :: r => cashLetterPlaces (n + 1) true c ++ cashLettersPlaces (n + 1) r

theorem cashLettersPlaces_append (n : Nat) (l : List (CashLetter α)) (x : CashLetter α) :
    cashLettersPlaces n (l ++ [x]) = cashLettersPlaces n l ++ cashLetterPlaces (n + l.length + 1) true x := by
  induction l generalizing n with
  | nil => simp [cashLettersPlaces]
  | cons y r ih =>
    simp only [List.cons_append, cashLettersPlaces, ih, List.length_cons, List.append_assoc]
    congr 3
    omega

/-- the part of the reader state that holds records -/
structure Core where
  cashLetters : List (CashLetter Vals)
  cur : CashLetter Vals
  curBundle : Option (Bundle Vals)

def _root_.Icl.RState.core (s : RState) : Core := ⟨s.cashLetters, s.cur, s.curBundle⟩

def inner (k : Kind) : Bool := k != .fileHeader && k != .fileControl

theorem inner_or (k : Kind) : inner k = true ∨ k = .fileHeader ∨ k = .fileControl := by
  cases k <;> simp [inner]

def openB (c : Core) : Bool := match c.curBundle with | some bd => bd.header.isSome | none => false

def openPlaces (c : Core) (cl b : Nat) : List Place :=
  match c.curBundle with
  | some bd => bundlePlaces cl b false bd
  | none => []

def corePlaces (c : Core) : List Place :=
  cashLettersPlaces 0 c.cashLetters ++
  cashLetterPlaces (c.cashLetters.length + 1) false c.cur ++
  openPlaces c (c.cashLetters.length + 1) (c.cur.bundles.length + 1)

def statePlaces (s : RState) : List Place := corePlaces s.core

def filePlaces (f : File Vals) : List Place := cashLettersPlaces 0 f.cashLetters

theorem modifyLast_concat {β : Type} (f : β → β) (l : List β) (x : β) : modifyLast f (l ++ [x]) = l ++ [f x] := by
  induction l with
  | nil => rfl
  | cons y r ih =>
    cases r with
    | nil => rfl
    | cons z r' => simp only [List.cons_append, modifyLast] at ih ⊢; rw [ih]

end Icl.C04
