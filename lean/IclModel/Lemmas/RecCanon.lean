/-
From canonical record values to C01's per-record premise `RecOK` (ASCII renderings): the rendered line
is a line of its kind, passes the reader's minimum-length test (80 bytes; records 27, 34 and 52 by what their
length fields announce), and the reader's decoding of it (layout-driven parse + the record's validation)
returns the record.  Then containers all of whose records satisfy a predicate.
-/
import IclModel.Lemmas.RoundTrip
import IclModel.Lemmas.Builder
import IclModel.Lemmas.Kind
namespace Icl.C01
open Icl Icl.C04

theorem recParse_ascii (m : Model) (e : Enc) (he : e.ebcdic = false) (k : Kind) (line : Bytes) (v0 : Vals) :
    recParse m e k line v0 = parseValidate m k id line v0 := by
  unfold recParse
  split <;> simp [he, ibm1047]

def TypeFirst (ws : List WField) : Bool :=
  match ws with
  | f :: _ => f.conv == .lit && f.src == "recordType" && !f.imageOnly
  | [] => false

/-- a record value of kind `k` that is its own canonical form: the type code is set, every written field
holds a value its column holds as such, nothing is set outside what `Parse()` sets, and the record is valid -/
structure RecCanonFrom (m : Model) (k : Kind) (v0 v : Vals) : Prop where
  typeSet : v.s "recordType" = k.tag
  canon : ∀ f ∈ (m.layout k).write, Relevant (assignDsts (m.layout k).parse) f →
    CanonField m.b64 (rawDsts (m.layout k).parse) f v
  /-- where `Parse()` counts characters rather than bytes: the rendering is text of one byte per character -/
  runes : ∀ st ∈ (m.layout k).parse, usesRunes st = true →
    runeCount (render m.b64 (m.layout k).write true v) = (render m.b64 (m.layout k).write true v).length
  /-- `v` holds nothing but what `Parse()` stores into the value `v0` the reader parses into -/
  shaped : replay m.now (m.layout k).setType v (m.layout k).parse v0 = v
  valid : m.validateK k v = (none, v)

/-- canonical with respect to the value the reader parses this kind into (a `New<T>()` template or the zero value) -/
abbrev RecCanon (m : Model) (k : Kind) (v : Vals) : Prop := RecCanonFrom m k (tmpl m k) v

/-- what `decide` establishes per record kind on the regenerated layout (kinds of at least 80 columns without
variable sections before column 80) -/
def FixedKind (m : Model) (k : Kind) : Bool :=
  LayoutOK (m.layout k) && TypeFirst (m.layout k).write && decide (80 ≤ (endOff (m.layout k).write ⟨0, []⟩).c) &&
    k != .ivData && k != .cdAddB && k != .rdAddC

theorem canon_typeSet (m : Model) (k : Kind) (v0 v : Vals) (hc : RecCanonFrom m k v0 v) : TypeSet v :=
  (congrArg List.length hc.typeSet).trans (tag_length k)

theorem typeFirst_line (m : Model) (k : Kind) (v0 v : Vals) (hc : RecCanonFrom m k v0 v)
    (htf : TypeFirst (m.layout k).write = true) : ∃ rest, lineOf m k (some v) = k.tag ++ rest := by
  simp only [lineOf]
  cases hw : (m.layout k).write with
  | nil => simp [hw, TypeFirst] at htf
  | cons f r =>
    simp only [hw, TypeFirst, Bool.and_eq_true, beq_iff_eq, Bool.not_eq_true'] at htf
    exact ⟨render m.b64 r true v, by simp [render, renderField, htf.1.1, htf.1.2, htf.2, hc.typeSet]⟩

theorem parse_canon_from (m : Model) (k : Kind) (hl : LayoutOK (m.layout k) = true) (v0 v : Vals) (hc : RecCanonFrom m k v0 v) :
    parseValidate m k id (lineOf m k (some v)) v0 = .ok v := by
  simp only [LayoutOK, Bool.and_eq_true] at hl
  have hp := parse_render m.b64 m.now (m.layout k).setType (m.layout k).write v (rawDsts (m.layout k).parse)
    (assignDsts (m.layout k).parse) hl.1
    (canon_typeSet m k v0 v hc) hc.canon (m.layout k).parse {} v0 (fun d hd => hd) hc.runes (by intro d hd; cases hd) hl.2
  have he : envOf v ({} : PSt).binds = [] := rfl
  rw [he, hc.shaped] at hp
  unfold parseValidate RecLayout.parseRec
  simp only [lineOf]
  rw [hp]
  simp only [hc.valid]

theorem parse_canon (m : Model) (k : Kind) (hl : LayoutOK (m.layout k) = true) (v : Vals) (hc : RecCanon m k v) :
    parseValidate m k id (lineOf m k (some v)) (tmpl m k) = .ok v := parse_canon_from m k hl (tmpl m k) v hc

theorem line_length_eq (m : Model) (k : Kind) (hl : LayoutOK (m.layout k) = true) {v0 : Vals} (v : Vals)
    (hc : RecCanonFrom m k v0 v) : (lineOf m k (some v)).length = (endOff (m.layout k).write ⟨0, []⟩).val v := by
  simp only [LayoutOK, Bool.and_eq_true] at hl
  exact render_length_endOff m.b64 v (canon_typeSet m k _ v hc) _ hl.1 (lenIsSym_all m.b64 _ _ _ v hc.canon)

theorem line_length_ge (m : Model) (k : Kind) (hl : LayoutOK (m.layout k) = true) (v : Vals) (hc : RecCanon m k v) :
    (endOff (m.layout k).write ⟨0, []⟩).c ≤ (lineOf m k (some v)).length := by
  rw [line_length_eq m k hl v hc]; exact Nat.le_add_right _ _

/-- without a code page only the reader's length test depends on the class of the kind -/
theorem recOK_ascii_of (m : Model) (e : Enc) (he : e.ebcdic = false) (k : Kind) (hl : LayoutOK (m.layout k) = true)
    (htf : TypeFirst (m.layout k).write = true) (v : Vals) (hc : RecCanon m k v)
    (hmin : kindOfLine (lineOf m k (some v)) = some k → minLen m e (lineOf m k (some v)) ≤ (lineOf m k (some v)).length) :
    RecOK m e (fun k v => lineOf m k (some v)) k v := by
  obtain ⟨rest, hr⟩ := typeFirst_line m k _ v hc htf
  have hkind : kindOfLine (lineOf m k (some v)) = some k := by rw [hr]; exact kindOfLine_tag k rest
  exact ⟨hkind, hmin hkind, (recParse_ascii m e he k _ _).trans (parse_canon m k hl v hc)⟩

/-- **C01's per-record premise from canonical values** (ASCII): the line `String()` renders for a
canonical record is read back by the reader's decoding as that record -/
theorem recOK_ascii (m : Model) (e : Enc) (he : e.ebcdic = false) (k : Kind) (hk : FixedKind m k = true)
    (v : Vals) (hc : RecCanon m k v) : RecOK m e (fun k v => lineOf m k (some v)) k v := by
  simp only [FixedKind, Bool.and_eq_true, decide_eq_true_eq, bne_iff_ne, ne_eq] at hk
  obtain ⟨⟨⟨⟨⟨hs, htf⟩, h80⟩, hk1⟩, hk2⟩, hk3⟩ := hk
  refine recOK_ascii_of m e he k hs htf v hc fun hkind => ?_
  have hlen := line_length_ge m k hs v hc
  rw [minLen_of_kind m e _ k hkind ⟨hk2, hk3, hk1⟩]; omega


/-- a fixed-width string field written at symbolic offset `o` that holds the announced length `lf` -/
def isLenField (p : SymOff × WField) (o : SymOff) (w : Nat) (lf : String) : Bool :=
  p.1 == o && p.2.width == w && p.2.src == lf && (p.2.conv == .zstr || p.2.conv == .alpha)

/-- the `w` bytes of `l` at `stop`, taken through `dec` and read as a number, are `n`: how the reader's length
test reads an announced length -/
def ReadsAt (dec : Bytes → Bytes) (l : Bytes) (stop w n : Nat) : Prop :=
  stop + w ≤ l.length ∧ parseNum (dec ((l.drop stop).take w)) = (n : Int)

theorem lenField_reads (m : Model) (k : Kind) (hl : LayoutOK (m.layout k) = true) (v : Vals) (hc : RecCanon m k v)
    (o : SymOff) (w : Nat) (lf : String) (hvl : (varLens (m.layout k).write).contains lf = true)
    (hnr : (rawDsts (m.layout k).parse).contains lf = false)
    (hasg : (assignDsts (m.layout k).parse).contains lf = true)
    (hsp : (spans (m.layout k).write ⟨0, []⟩).any (fun p => isLenField p o w lf) = true) :
    ReadsAt id (lineOf m k (some v)) (o.val v) w (widthOfLen v lf) := by
  unfold ReadsAt
  rw [widthOfLen_of_lenOK v lf (lenOK_of_varLens m.b64 _ _ _ v hc.canon (List.contains_iff_mem.1 hvl))]
  simp only [LayoutOK, Bool.and_eq_true] at hl
  have ht := canon_typeSet m k _ v hc
  simp only [List.any_eq_true] at hsp
  obtain ⟨⟨o', f⟩, hmem, hp⟩ := hsp
  simp only [isLenField, Bool.and_eq_true, beq_iff_eq, Bool.or_eq_true] at hp
  obtain ⟨⟨⟨rfl, rfl⟩, rfl⟩, hconv⟩ := hp
  obtain ⟨pre, post, h1, h2, -⟩ := span_split m.b64 v ht _ ⟨0, []⟩ o' f hl.1 (lenIsSym_all m.b64 _ _ _ v hc.canon) hmem
  have hfw := span_mem_field hmem
  have hwfF : WfW f = true := List.all_eq_true.1 hl.1 f hfw
  have hcf := hc.canon f hfw (Or.inr (by simpa using hasg))
  have hlenF : (renderField m.b64 f v).length = f.width := by
    rw [renderField_length m.b64 f v hwfF ht]; unfold lenOf; rcases hconv with hcv | hcv <;> simp [hcv]
  -- both converters are read back by the trimming decoder, and the member itself is trimmed
  have hstr : parseStr (renderField m.b64 f v) = v.s f.src :=
    decode_renderField (k := .str) hwfF hcf (by rcases hconv with hcv | hcv <;> simp only [compat, hcv, hnr] <;> decide)
  have htr := trimSpace_trimmed (v.s f.src) (by
    unfold CanonField at hcf
    rcases hconv with hcv | hcv <;> simp only [hcv, hnr, Bool.false_eq_true, if_false] at hcf <;> exact hcf.1)
  have hpre : pre.length = o'.val v := (Nat.zero_add _).symm.trans h2
  simp only [lineOf, h1, List.append_assoc]
  refine ⟨by simp only [List.length_append]; omega, ?_⟩
  rw [← hpre, List.drop_left, ← hlenF, List.take_left]
  unfold parseNum; rw [id, htr]; exact congrArg atoi hstr

/-- records 27 and 34: 46 columns plus the image reference key announced in columns 19-22.  46, 18 and 4 are
the constants of `minLen` (Tree.lean), whose test `recOK_ascii_key` evaluates. -/
def KeyKind (m : Model) (k : Kind) : Bool :=
  LayoutOK (m.layout k) && TypeFirst (m.layout k).write && (k == .cdAddB || k == .rdAddC) &&
    endOff (m.layout k).write ⟨0, []⟩ == ⟨46, ["LengthImageReferenceKey"]⟩ &&
    (spans (m.layout k).write ⟨0, []⟩).any (fun p => isLenField p ⟨18, []⟩ 4 "LengthImageReferenceKey") &&
    (varLens (m.layout k).write).contains "LengthImageReferenceKey" &&
    !(rawDsts (m.layout k).parse).contains "LengthImageReferenceKey" &&
    (assignDsts (m.layout k).parse).contains "LengthImageReferenceKey"

theorem recOK_ascii_key (m : Model) (e : Enc) (he : e.ebcdic = false) (k : Kind) (hk : KeyKind m k = true)
    (v : Vals) (hc : RecCanon m k v) : RecOK m e (fun k v => lineOf m k (some v)) k v := by
  simp only [KeyKind, Bool.and_eq_true, beq_iff_eq, Bool.or_eq_true, Bool.not_eq_true'] at hk
  obtain ⟨⟨⟨⟨⟨⟨⟨hs, htf⟩, hkk⟩, hE⟩, hsp⟩, hvl⟩, hnr⟩, hasg⟩ := hk
  refine recOK_ascii_of m e he k hs htf v hc fun hkind => ?_
  have hlen := line_length_eq m k hs v hc
  rw [hE] at hlen
  obtain ⟨h22, h4⟩ := lenField_reads m k hs v hc ⟨18, []⟩ 4 "LengthImageReferenceKey" hvl hnr hasg hsp
  simp only [SymOff.val, sumW, Nat.add_zero] at h22 h4
  simp only [SymOff.val, sumW, Nat.add_zero] at hlen
  have hnl : ¬ (lineOf m k (some v)).length < 22 := by omega
  have hn : parseNum ((((lineOf m k (some v)).take 22).drop 18).take 4) = (widthOfLen v "LengthImageReferenceKey" : Int) := by
    rw [List.drop_take, List.take_take]; exact h4
  have h0 : ¬ (widthOfLen v "LengthImageReferenceKey" : Int) < 0 := by omega
  have hm : minLen m e (lineOf m k (some v)) = 46 + widthOfLen v "LengthImageReferenceKey" := by
    unfold minLen
    rw [hkind]
    rcases hkk with hkk | hkk <;> subst hkk <;>
      simp only [hnl, if_false, he, Bool.false_eq_true, id, hn, h0, Int.toNat_natCast]
  rw [hm, hlen]; exact Nat.le_refl _


theorem ivMinLen_step (dec : Bytes → Bytes) (l : Bytes) (stop w : Nat) (ws : List Nat) (n : Nat)
    (h : ReadsAt dec l stop w n) : ivMinLen dec l stop (w :: ws) = ivMinLen dec l (stop + w + n) ws := by
  have hl : ¬ l.length < stop + w := Nat.not_lt.2 h.1
  have hn : ¬ (n : Int) < 0 := by omega
  rw [ivMinLen]
  simp only [hl, if_false, h.2, hn, Int.toNat_natCast]

theorem ivMinLen_reads (dec : Bytes → Bytes) (l : Bytes) (K S I : Nat) (a : ReadsAt dec l 101 4 K)
    (b : ReadsAt dec l (105 + K) 5 S) (c : ReadsAt dec l (110 + (K + S)) 7 I) :
    ivMinLen dec l 101 [4, 5, 7] = 117 + (K + (S + I)) := by
  rw [ivMinLen_step dec l _ _ _ K a, show 101 + 4 + K = 105 + K by omega, ivMinLen_step dec l _ _ _ S b,
    show 105 + K + 5 + S = 110 + (K + S) by omega, ivMinLen_step dec l _ _ _ I c, ivMinLen]
  omega

/-- record 52: the length fields of 4, 5 and 7 digits at columns 101, 105 + key, 110 + key + signature are the
`101 [4, 5, 7]` that `minLen` hands to `ivMinLen` (Tree.lean); 117 = 101 + 4 + 5 + 7 -/
def IvKind (m : Model) (k : Kind) : Bool :=
  LayoutOK (m.layout k) && TypeFirst (m.layout k).write && k == .ivData &&
    endOff (m.layout k).write ⟨0, []⟩ == ⟨117, ["LengthImageReferenceKey", "LengthDigitalSignature", "LengthImageData"]⟩ &&
    (spans (m.layout k).write ⟨0, []⟩).any (fun p => isLenField p ⟨101, []⟩ 4 "LengthImageReferenceKey") &&
    (spans (m.layout k).write ⟨0, []⟩).any (fun p => isLenField p ⟨105, ["LengthImageReferenceKey"]⟩ 5 "LengthDigitalSignature") &&
    (spans (m.layout k).write ⟨0, []⟩).any (fun p => isLenField p ⟨110, ["LengthImageReferenceKey", "LengthDigitalSignature"]⟩ 7 "LengthImageData") &&
    (varLens (m.layout k).write).contains "LengthImageReferenceKey" &&
    (varLens (m.layout k).write).contains "LengthDigitalSignature" &&
    (varLens (m.layout k).write).contains "LengthImageData" &&
    !(rawDsts (m.layout k).parse).contains "LengthImageReferenceKey" &&
    !(rawDsts (m.layout k).parse).contains "LengthDigitalSignature" &&
    !(rawDsts (m.layout k).parse).contains "LengthImageData" &&
    (assignDsts (m.layout k).parse).contains "LengthImageReferenceKey" &&
    (assignDsts (m.layout k).parse).contains "LengthDigitalSignature" &&
    (assignDsts (m.layout k).parse).contains "LengthImageData"

theorem ivKind_base (m : Model) (k : Kind) (h : IvKind m k = true) :
    k = .ivData ∧ LayoutOK (m.layout k) = true ∧ TypeFirst (m.layout k).write = true := by
  simp only [IvKind, Bool.and_eq_true, beq_iff_eq] at h
  exact ⟨h.1.1.1.1.1.1.1.1.1.1.1.1.1.2, h.1.1.1.1.1.1.1.1.1.1.1.1.1.1.1, h.1.1.1.1.1.1.1.1.1.1.1.1.1.1.2⟩

theorem iv_reads (m : Model) (hk : IvKind m .ivData = true) (v : Vals) (hc : RecCanon m .ivData v) :
    ∃ K S I : Nat, ReadsAt id (lineOf m .ivData (some v)) 101 4 K ∧ ReadsAt id (lineOf m .ivData (some v)) (105 + K) 5 S ∧
      ReadsAt id (lineOf m .ivData (some v)) (110 + (K + S)) 7 I ∧
      (lineOf m .ivData (some v)).length = 117 + (K + (S + I)) ∧ I = widthOfLen v "LengthImageData" := by
  simp only [IvKind, Bool.and_eq_true, beq_iff_eq, Bool.not_eq_true'] at hk
  obtain ⟨⟨⟨⟨⟨⟨⟨⟨⟨⟨⟨⟨⟨⟨⟨hs, _⟩, _⟩, hE⟩, hsp1⟩, hsp2⟩, hsp3⟩, hv1⟩, hv2⟩, hv3⟩, hn1⟩, hn2⟩, hn3⟩, ha1⟩, ha2⟩, ha3⟩ := hk
  have hlen := line_length_eq m .ivData hs v hc
  rw [hE] at hlen
  have a := lenField_reads m .ivData hs v hc _ 4 _ hv1 hn1 ha1 hsp1
  have b := lenField_reads m .ivData hs v hc _ 5 _ hv2 hn2 ha2 hsp2
  have c := lenField_reads m .ivData hs v hc _ 7 _ hv3 hn3 ha3 hsp3
  simp only [SymOff.val, sumW, Nat.add_zero] at a b c hlen
  exact ⟨_, _, _, a, b, c, hlen, rfl⟩

theorem recOK_ascii_iv (m : Model) (e : Enc) (he : e.ebcdic = false) (k : Kind) (hk : IvKind m k = true)
    (v : Vals) (hc : RecCanon m k v) : RecOK m e (fun k v => lineOf m k (some v)) k v := by
  obtain ⟨rfl, hl, htf⟩ := ivKind_base m k hk
  obtain ⟨K, S, I, a, b, c, hlen, _⟩ := iv_reads m hk v hc
  refine recOK_ascii_of m e he .ivData hl htf v hc fun hkind => ?_
  have hnl : ¬ (lineOf m .ivData (some v)).length < 80 := by omega
  unfold minLen
  simp only [hkind, hnl, if_false, he, Bool.false_eq_true]
  rw [ivMinLen_reads id _ K S I a b c, hlen]
  exact Nat.le_refl _


/-- what `decide` establishes for each of the 21 record kinds on the regenerated layouts -/
def KindOK (m : Model) (k : Kind) : Bool := FixedKind m k || KeyKind m k || IvKind m k

theorem recOK_ascii_all (m : Model) (e : Enc) (he : e.ebcdic = false) (k : Kind) (hk : KindOK m k = true)
    (v : Vals) (hc : RecCanon m k v) : RecOK m e (fun k v => lineOf m k (some v)) k v := by
  simp only [KindOK, Bool.or_eq_true] at hk
  rcases hk with (hk | hk) | hk
  · exact recOK_ascii m e he k hk v hc
  · exact recOK_ascii_key m e he k hk v hc
  · exact recOK_ascii_iv m e he k hk v hc

def ItemAll (P : Kind → Vals → Prop) (isCheck : Bool) (it : Item Vals) : Prop :=
  P (if isCheck then .checkDetail else .returnDetail) it.detail ∧
  (∀ v ∈ it.addA, P (if isCheck then .cdAddA else .rdAddA) v) ∧
  (∀ v ∈ it.addB, P (if isCheck then .cdAddB else .rdAddB) v) ∧
  (∀ v ∈ it.addC, P (if isCheck then .cdAddC else .rdAddC) v) ∧
  (∀ v ∈ it.addD, P .rdAddD v) ∧
  (∀ v ∈ it.ivDetail, P .ivDetail v) ∧ (∀ v ∈ it.ivData, P .ivData v) ∧
  (∀ v ∈ it.ivAnalysis, P .ivAnalysis v)

theorem itemOK_of_all (m : Model) (e : Enc) (ln : Kind → Vals → Bytes) (P : Kind → Vals → Prop)
    (hrec : ∀ k v, P k v → RecOK m e ln k v) (isCheck : Bool) (it : Item Vals) (h : ItemAll P isCheck it) :
    ItemOK m e ln isCheck it := by
  obtain ⟨h1, h2, h3, h4, h5, h6, h7, h8⟩ := h
  exact ⟨hrec _ _ h1, fun v hv => hrec _ _ (h2 v hv), fun v hv => hrec _ _ (h3 v hv), fun v hv => hrec _ _ (h4 v hv),
    fun v hv => hrec _ _ (h5 v hv), fun v hv => hrec _ _ (h6 v hv), fun v hv => hrec _ _ (h7 v hv),
    fun v hv => hrec _ _ (h8 v hv)⟩

/-- a bundle in canonical form: header and control present, forward items or returns (not both), the
container-level validation of the reader passes, every record satisfies `P` -/
structure BundleAll (P : Kind → Vals → Prop) (b : Bundle Vals) : Prop where
  hdr : ∃ h, b.header = some h ∧ P .bundleHeader h
  ctl : ∃ c, b.control = some c ∧ P .bundleControl c
  oneKind : b.checks = [] ∨ b.returns = []
  valid : bundleValidate b = none
  checks : ∀ it ∈ b.checks, ItemAll P true it ∧ ItemWF true it
  returns : ∀ it ∈ b.returns, ItemAll P false it ∧ ItemWF false it

theorem bundleOK_of_all (m : Model) (e : Enc) (ln : Kind → Vals → Bytes) (P : Kind → Vals → Prop)
    (hrec : ∀ k v, P k v → RecOK m e ln k v) (b : Bundle Vals) (h : BundleAll P b) : BundleOK m e ln b where
  hdr := by obtain ⟨x, hx, hc⟩ := h.hdr; exact ⟨x, hx, hrec _ _ hc⟩
  ctl := by obtain ⟨x, hx, hc⟩ := h.ctl; exact ⟨x, hx, hrec _ _ hc⟩
  oneKind := h.oneKind
  valid := h.valid
  checks := fun it hit => ⟨itemOK_of_all m e ln P hrec true it (h.checks it hit).1, (h.checks it hit).2⟩
  returns := fun it hit => ⟨itemOK_of_all m e ln P hrec false it (h.returns it hit).1, (h.returns it hit).2⟩

structure CashLetterAll (m : Model) (P : Kind → Vals → Prop) (cl : CashLetter Vals) : Prop where
  hdr : ∃ h, cl.header = some h ∧ P .cashLetterHeader h
  ctl : ∃ c, cl.control = some c ∧ P .cashLetterControl c
  rnsSome : ∀ r ∈ cl.rns, r.isSome = true
  valid : cashLetterValidate m cl = none
  creditItems : ∀ v ∈ cl.creditItems, P .creditItem v
  credits : ∀ v ∈ cl.credits, P .credit v
  rns : ∀ v ∈ cl.rns.filterMap id, P .rns v
  bundles : ∀ b ∈ cl.bundles, BundleAll P b

theorem cashLetterOK_of_all (m : Model) (e : Enc) (ln : Kind → Vals → Bytes) (P : Kind → Vals → Prop)
    (hrec : ∀ k v, P k v → RecOK m e ln k v) (cl : CashLetter Vals) (h : CashLetterAll m P cl) :
    CashLetterOK m e ln cl where
  hdr := by obtain ⟨x, hx, hc⟩ := h.hdr; exact ⟨x, hx, hrec _ _ hc⟩
  ctl := by obtain ⟨x, hx, hc⟩ := h.ctl; exact ⟨x, hx, hrec _ _ hc⟩
  rnsSome := h.rnsSome
  valid := h.valid
  creditItems := fun v hv => hrec _ _ (h.creditItems v hv)
  credits := fun v hv => hrec _ _ (h.credits v hv)
  rns := fun v hv => hrec _ _ (h.rns v hv)
  bundles := fun b hb => bundleOK_of_all m e ln P hrec b (h.bundles b hb)

abbrev CanonItem (m : Model) := ItemAll (RecCanon m)
abbrev CanonBundle (m : Model) := BundleAll (RecCanon m)
abbrev CanonCashLetter (m : Model) := CashLetterAll m (RecCanon m)

theorem cashLetterOK_of_canon (m : Model) (e : Enc) (he : e.ebcdic = false) (hK : ∀ k, KindOK m k = true)
    (cl : CashLetter Vals) (h : CanonCashLetter m cl) : CashLetterOK m e (fun k v => lineOf m k (some v)) cl :=
  cashLetterOK_of_all m e _ (RecCanon m) (fun k v hc => recOK_ascii_all m e he k (hK k) v hc) cl h


section
variable (ln : Kind → Vals → Bytes) (P : Kind → Vals → Prop)

theorem recP_views (it : Item Vals) (i : Nat) (h1 : ∀ v ∈ it.ivDetail, P .ivDetail v) (h2 : ∀ v ∈ it.ivData, P .ivData v)
    (h3 : ∀ v ∈ it.ivAnalysis, P .ivAnalysis v) : ∀ r ∈ viewRecs ln it i, P r.1 r.2.1 := by
  simp only [viewRecs, List.forall_mem_append, List.forall_mem_map]
  exact ⟨⟨fun v hv => h1 v (mem_optVals _ _ _ hv), fun v hv => h2 v (mem_optVals _ _ _ hv)⟩,
    fun v hv => h3 v (mem_optVals _ _ _ hv)⟩

theorem recP_check (it : Item Vals) (h : ItemAll P true it) : ∀ r ∈ checkRecs ln it, P r.1 r.2.1 := by
  obtain ⟨h1, h2, h3, h4, _, h6, h7, h8⟩ := h
  simp only [checkRecs, List.forall_mem_append, List.forall_mem_map, List.forall_mem_singleton, List.forall_mem_flatMap]
  exact ⟨⟨⟨⟨h1, h2⟩, h3⟩, h4⟩, fun i _ => recP_views ln P it i h6 h7 h8⟩

theorem recP_return (it : Item Vals) (h : ItemAll P false it) : ∀ r ∈ returnRecs ln it, P r.1 r.2.1 := by
  obtain ⟨h1, h2, h3, h4, h5, h6, h7, h8⟩ := h
  simp only [returnRecs, List.forall_mem_append, List.forall_mem_map, List.forall_mem_singleton, List.forall_mem_flatMap]
  exact ⟨⟨⟨⟨⟨h1, h2⟩, h3⟩, h4⟩, h5⟩, fun i _ => recP_views ln P it i h6 h7 h8⟩

theorem recP_bundle (b : Bundle Vals) (h : BundleAll P b) : ∀ r ∈ bundleRecs ln b, P r.1 r.2.1 := by
  obtain ⟨x, hx, hpx⟩ := h.hdr
  obtain ⟨y, hy, hpy⟩ := h.ctl
  simp only [bundleRecs, hx, hy, Option.toList_some, List.forall_mem_append, List.forall_mem_map,
    List.forall_mem_singleton, List.forall_mem_flatMap]
  exact ⟨⟨⟨hpx, fun it hit => recP_check ln P it (h.checks it hit).1⟩,
    fun it hit => recP_return ln P it (h.returns it hit).1⟩, hpy⟩

theorem recP_cashLetter (m : Model) (cl : CashLetter Vals) (h : CashLetterAll m P cl) : ∀ r ∈ clRecs ln cl, P r.1 r.2.1 := by
  obtain ⟨x, hx, hpx⟩ := h.hdr
  obtain ⟨y, hy, hpy⟩ := h.ctl
  simp only [clRecs, hx, hy, Option.toList_some, List.forall_mem_append, List.forall_mem_map,
    List.forall_mem_singleton, List.forall_mem_flatMap]
  exact ⟨⟨⟨⟨⟨hpx, h.creditItems⟩, h.credits⟩, fun b hb => recP_bundle ln P b (h.bundles b hb)⟩, h.rns⟩, hpy⟩

end

end Icl.C01
