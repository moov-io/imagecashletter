/-
Parse never panics: a decidable symbolic check (`guardOK`) on a regenerated `Parse()` statement list
— every slice `record[lo:hi]` is dominated by a length guard established earlier — and the proof that
it implies that the interpreter `parseStmts` never reaches its `panic` outcome, for every input
string, every record value and every environment.
-/
import IclModel.Layout
namespace Icl

theorem runesFuel_length_le (n : Nat) (s : Bytes) : (runesFuel n s).length ≤ n := by
  fun_induction runesFuel n s with
  | case1 => exact Nat.le_refl 0
  | case2 => exact Nat.zero_le _
  | case3 n s _ r sz _ ih => exact Nat.succ_le_succ ih

/-- `utf8.RuneCountInString(s) <= len(s)` -/
theorem runeCount_le_length (s : Bytes) : runeCount s ≤ s.length := runesFuel_length_le _ s

/-- symbolic knowledge while walking a Parse body: `len(record) ≥ bound`, and variables known ≥ 0 -/
structure Sym where
  bound : Off := ⟨0, []⟩
  nn : List String := []

def sumVars (e : Env) (vs : List String) : Int := (vs.map e.get).sum

theorem Off.eval_eq (o : Off) (e : Env) : o.eval e = (o.c : Int) + sumVars e o.vars := by
  unfold Off.eval sumVars
  generalize (o.c : Int) = a
  induction o.vars generalizing a with
  | nil => simp
  | cons x r ih => rw [List.foldl_cons, ih, List.map_cons, List.sum_cons]; omega

theorem sumVars_cons (e : Env) (x : String) (vs : List String) : sumVars e (x :: vs) = e.get x + sumVars e vs := rfl

theorem sumVars_nonneg (e : Env) (vs : List String) (h : ∀ x ∈ vs, 0 ≤ e.get x) : 0 ≤ sumVars e vs := by
  induction vs with
  | nil => exact Int.le_refl 0
  | cons x r ih =>
    have ⟨hx, hr⟩ := List.forall_mem_cons.mp h
    have := ih hr
    rw [sumVars_cons]
    omega

/-- symbolic `a ≤ b`: smaller constant, `a`'s variables a prefix of `b`'s -/
def Off.sle (a b : Off) : Bool := decide (a.c ≤ b.c) && a.vars.isPrefixOf b.vars

theorem Off.sle_sound (a b : Off) (e : Env) (h : a.sle b = true) (hb : ∀ x ∈ b.vars, 0 ≤ e.get x) :
    0 ≤ a.eval e ∧ a.eval e ≤ b.eval e := by
  simp only [Off.sle, Bool.and_eq_true, decide_eq_true_eq] at h
  obtain ⟨hc, hp⟩ := h
  obtain ⟨t, ht⟩ := List.isPrefixOf_iff_prefix.mp hp
  rw [← ht] at hb
  have ha := sumVars_nonneg e a.vars (fun x hx => hb x (List.mem_append_left t hx))
  have ht' := sumVars_nonneg e t (fun x hx => hb x (List.mem_append_right a.vars hx))
  unfold sumVars at ha ht'
  rw [Off.eval_eq, Off.eval_eq, ← ht, sumVars, sumVars, List.map_append, List.sum_append]
  omega

def allIn (vs nn : List String) : Bool := vs.all (fun x => nn.contains x)

/-- every slice is covered by an earlier guard -/
def guardOK : List PStmt → Sym → Bool
  | [], _ => true
  | .guardRunes _ n :: r, s => guardOK r { s with bound := if s.bound.sle ⟨n, []⟩ then ⟨n, []⟩ else s.bound }
  | .guardBytes n :: r, s => guardOK r { s with bound := if s.bound.sle ⟨n, []⟩ then ⟨n, []⟩ else s.bound }
  | .guardVar _ var _ off :: r, s =>
    let nn := var :: s.nn
    guardOK r { bound := if s.bound.sle off && allIn off.vars nn then off else s.bound, nn := nn }
  | .bind var _ :: r, s => !s.nn.contains var && !s.bound.vars.contains var && guardOK r s
  | .assign _ lo hi _ _ :: r, s => lo.sle hi && hi.sle s.bound && allIn hi.vars s.nn && allIn s.bound.vars s.nn && guardOK r s
  | .lit _ _ :: r, s => guardOK r s
  | .setType :: r, s => guardOK r s
  | .opaque :: _, _ => false

/-- what the symbolic state claims about the concrete run -/
def Sym.holds (s : Sym) (e : Env) (record : Bytes) : Prop :=
  s.bound.eval e ≤ (record.length : Int) ∧ (∀ x ∈ s.nn, 0 ≤ e.get x) ∧ (∀ x ∈ s.bound.vars, x ∈ s.nn)

theorem allIn_mem (vs nn : List String) (h : allIn vs nn = true) : ∀ x ∈ vs, x ∈ nn := by
  intro x hx
  simp only [allIn, List.all_eq_true] at h
  simpa using h x hx

theorem Env.get_cons_ne (e : Env) (k k' : String) (x : Int) (h : k' ≠ k) : Env.get ((k', x) :: e) k = e.get k := by
  simp [Env.get, h]

theorem sumVars_cons_env (e : Env) (k : String) (x : Int) (vs : List String) (h : ¬ k ∈ vs) :
    sumVars ((k, x) :: e) vs = sumVars e vs :=
  congrArg List.sum (List.map_congr_left fun y hy => Env.get_cons_ne e y k x fun hh => h (hh ▸ hy))

/-- A guard that did not fire has shown `off ≤ len(record)`, so `off` may replace the bound; whether it does
(`c`) is the checker's choice. -/
theorem Sym.holds.guard {s : Sym} {e : Env} {record : Bytes} (h : s.holds e record) (off : Off) (c : Bool)
    (hoff : off.eval e ≤ (record.length : Int)) (hc : c = true → ∀ x ∈ off.vars, x ∈ s.nn) :
    Sym.holds { s with bound := if c then off else s.bound } e record := by
  cases c with
  | true => exact ⟨hoff, h.2.1, hc rfl⟩
  | false => exact h

theorem done_of_guard {g : Prop} [Decidable g] {v : Vals} {rest : ParseOut} (h : ¬ g → ∃ v', rest = .done v') :
    ∃ v', (if g then .done v else rest) = .done v' := by
  by_cases hg : g
  · exact ⟨v, if_pos hg⟩
  · rw [if_neg hg]; exact h hg

/-- **Parse never panics** when its guards dominate its slices -/
theorem parseStmts_no_panic (dec : Bytes → Bytes) (now : Date) (sty : List SetAct) (record : Bytes)
    (stmts : List PStmt) (s : Sym) (e : Env) (v : Vals)
    (hok : guardOK stmts s = true) (hinv : s.holds e record) :
    ∃ v', parseStmts dec now sty record stmts e v = .done v' := by
  induction stmts generalizing s e v with
  | nil => exact ⟨v, rfl⟩
  | cons st r ih =>
    have hrc := runeCount_le_length record
    cases st with
    | guardRunes ne n =>
      refine done_of_guard (fun hg => ?_)
      have hn : (n : Int) ≤ record.length := by split at hg <;> omega
      exact ih _ e v hok (hinv.guard ⟨n, []⟩ _ hn (by simp))
    | guardBytes n =>
      refine done_of_guard (fun hg => ?_)
      have hn : (n : Int) ≤ record.length := by omega
      exact ih _ e v hok (hinv.guard ⟨n, []⟩ _ hn (by simp))
    | guardVar bytes var le0 off =>
      refine done_of_guard (fun hg => ?_)
      obtain ⟨hv, hlen⟩ := not_or.mp hg
      have hvar : 0 ≤ e.get var := by split at hv <;> omega
      have hoff : off.eval e ≤ (record.length : Int) := by omega
      have hinv' : Sym.holds { s with nn := var :: s.nn } e record :=
        ⟨hinv.1, List.forall_mem_cons.mpr ⟨hvar, hinv.2.1⟩, fun x hx => List.mem_cons_of_mem _ (hinv.2.2 x hx)⟩
      exact ih _ e v hok (hinv'.guard off _ hoff (fun hc => allIn_mem _ _ (Bool.and_eq_true_iff.mp hc).2))
    | bind var field =>
      simp only [guardOK, Bool.and_eq_true, Bool.not_eq_true', List.contains_eq_mem, decide_eq_false_iff_not] at hok
      obtain ⟨⟨h1, h2⟩, h3⟩ := hok
      obtain ⟨hb, hnn, hbv⟩ := hinv
      simp only [parseStmts]
      apply ih s _ v h3
      refine ⟨?_, ?_, hbv⟩
      · rw [Off.eval_eq, sumVars_cons_env e var _ _ h2, ← Off.eval_eq]; exact hb
      · intro x hx
        rw [Env.get_cons_ne e x var _ (fun hh => h1 (hh ▸ hx))]; exact hnn x hx
    | assign dst lo hi k decode =>
      simp only [guardOK, Bool.and_eq_true] at hok
      obtain ⟨⟨⟨⟨h1, h2⟩, h3⟩, _⟩, h5⟩ := hok
      have hlo := Off.sle_sound lo hi e h1 (fun x hx => hinv.2.1 x (allIn_mem _ _ h3 x hx))
      have hhi := Off.sle_sound hi s.bound e h2 (fun x hx => hinv.2.1 x (hinv.2.2 x hx))
      have hcond : 0 ≤ lo.eval e ∧ lo.eval e ≤ hi.eval e ∧ hi.eval e ≤ (record.length : Int) :=
        ⟨hlo.1, hlo.2, Int.le_trans hhi.2 hinv.1⟩
      simp only [parseStmts, slice?, hcond, and_self, if_true]
      exact ih s e _ h5 hinv
    | lit dst b | setType => exact ih s e _ hok hinv
    | «opaque» => simp [guardOK] at hok

theorem parseRec_total (L : RecLayout) (h : guardOK L.parse {} = true) (dec : Bytes → Bytes) (now : Date)
    (record : Bytes) (v0 : Vals) : ∃ v, L.parseRec dec now record v0 = .done v :=
  parseStmts_no_panic dec now L.setType record L.parse {} [] v0 h ⟨Int.natCast_nonneg _, by simp, by simp⟩

end Icl
