/-
Framing lemmas: length-prefix framing is lossless for arbitrary record bytes; newline framing is
lossless for records that contain no line feed and do not end in a carriage return.
-/
import IclModel.Encoding
namespace Icl

def joinLP (ls : List Bytes) : Bytes := ls.flatMap (fun l => be32 l.length ++ l)
def joinNL (ls : List Bytes) : Bytes := ls.flatMap (fun l => l ++ [0x0A])

theorem be32_length (n : Nat) : (be32 n).length = 4 := by simp [be32]

theorem be32Val_be32 (n : Nat) (h : n < 4294967296) : be32Val (be32 n) = n := by
  simp only [be32, be32Val, UInt8.toNat_ofNat', Nat.mod_mod]
  -- successive quotients by 256: `omega` is much slower on the divisors 65536 and 16777216
  rw [show n / 16777216 = n / 256 / 256 / 256 by simp [Nat.div_div_eq_div_mul],
    show n / 65536 = n / 256 / 256 by simp [Nat.div_div_eq_div_mul]]
  omega

theorem splitLPFuel_frame (n : Nat) (l rest : Bytes) (hl : l.length < 4294967296) :
    splitLPFuel (n + 1) (be32 l.length ++ (l ++ rest)) = (l :: (splitLPFuel n rest).1, (splitLPFuel n rest).2) := by
  have h4 := be32_length l.length
  rw [splitLPFuel.eq_3 _ _ (by simp [be32])]
  simp only [List.length_append, h4, List.take_left' h4, List.drop_left' h4, List.take_left, be32Val_be32 _ hl,
    show ¬ 4 + (l.length + rest.length) < 4 by omega, show 4 + l.length ≤ 4 + (l.length + rest.length) by omega, if_false, if_true,
    ← List.drop_drop, List.drop_left]

theorem splitLPFuel_join (ls : List Bytes) (fuel : Nat) (hf : (joinLP ls).length < fuel)
    (h : ∀ l ∈ ls, l.length < 4294967296) : splitLPFuel fuel (joinLP ls) = (ls, true) := by
  induction ls generalizing fuel with
  | nil => cases fuel <;> simp [joinLP, splitLPFuel]
  | cons l r ih =>
    obtain ⟨n, rfl⟩ : ∃ n, fuel = n + 1 := ⟨fuel - 1, by omega⟩
    have hjoin : joinLP (l :: r) = be32 l.length ++ (l ++ joinLP r) := by simp [joinLP]
    rw [hjoin] at hf ⊢
    simp only [List.length_append, be32_length] at hf
    rw [splitLPFuel_frame n l _ (h l (by simp)), ih n (by omega) fun x hx => h x (by simp [hx])]

/-- **length-prefix framing is lossless** for any record bytes (binary included) -/
theorem splitLP_joinLP (ls : List Bytes) (h : ∀ l ∈ ls, l.length < 4294967296) :
    splitLP (joinLP ls) = (ls, true) :=
  splitLPFuel_join ls _ (Nat.lt_succ_self _) h

theorem splitNLAux_line (l rest acc : Bytes) (hno : (0x0A : UInt8) ∉ l) :
    splitNLAux (l ++ 0x0A :: rest) acc = dropCR (acc.reverse ++ l) :: splitNLAux rest [] := by
  induction l generalizing acc with
  | nil => simp [splitNLAux]
  | cons b l ih =>
    have hb : b ≠ 0x0A := fun h => hno (by simp [h])
    have hl : (0x0A : UInt8) ∉ l := fun h => hno (by simp [h])
    have : splitNLAux (b :: (l ++ 0x0A :: rest)) acc = splitNLAux (l ++ 0x0A :: rest) (b :: acc) := by
      rw [splitNLAux]
      intro h; exact absurd h hb
    simp only [List.cons_append, this, ih (b :: acc) hl]
    simp [List.append_assoc]

theorem splitNL_joinNL (ls : List Bytes) (hno : ∀ l ∈ ls, (0x0A : UInt8) ∉ l) :
    splitNL (joinNL ls) = ls.map dropCR := by
  unfold splitNL
  induction ls with
  | nil => simp [joinNL, splitNLAux]
  | cons l ls ih =>
    have : joinNL (l :: ls) = l ++ 0x0A :: joinNL ls := by simp [joinNL]
    rw [this, splitNLAux_line l _ [] (hno l (by simp))]
    simp [ih (fun x hx => hno x (by simp [hx]))]

end Icl
