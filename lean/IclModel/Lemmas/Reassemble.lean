/-
Reassembly (C01, tree level): the model reader's step function factors into "decode the record"
(`recParse`: layout-driven parse + the record's own validation) and "attach it to the tree"
(`pushRec`: a small pure function on the record-holding part of the reader state).  `rstep_eq` goes
through the 21 cases of `rstep`: the step succeeds exactly with the state `accept` gives for the decoded
record, and otherwise fails leaving all but the record name alone.  Everything else the model-level
theorems need about a step (`rstep_ok_iff`, `rstep_error`, `rstep_of_push`, `push_of_rstep`, C04
`rel_step`, C18, C19 `Relaxes.rstep`) is read off it; only the comparison with the translated handlers
(Props/C04Reader.lean, `handlerFor_eq`) goes through the cases again, side by side.
-/
import IclModel.Lemmas.Census
namespace Icl.C01
open Icl Icl.C04

/-- the record value each kind is parsed into: a constructor template, or the zero value -/
def tmpl (m : Model) (k : Kind) : Vals :=
  match k with
  | .checkDetail | .returnDetail | .credit | .creditItem => {}
  | k => (m.layout k).new m.now

/-- what the reader parses a record of kind `k` into, given its state -/
def v0For (m : Model) (c : Core) (k : Kind) : Vals :=
  match k with
  | .bundleControl => (c.curBundle.bind (·.control)).getD {}
  | .cashLetterControl => c.cur.control.getD {}
  | k => tmpl m k

/-- the reader's decoding of one record (before it touches the tree) -/
def recParse (m : Model) (e : Enc) (k : Kind) (line : Bytes) (v0 : Vals) : Except String Vals :=
  match k with
  | .ivData => parseValidate m .ivData (if e.ebcdic then m.cm.decode else id) line v0
  | .cdAddA => parseValidate m .cdAddA id ((if e.ebcdic then m.cm.decode else id) (ibm1047 (m.frb && e.ebcdic) line)) v0
  | k => parseValidate m k id ((if e.ebcdic then m.cm.decode else id) line) v0

theorem ibm1047_id (frb : Bool) (l : Bytes) (h : ∀ b ∈ l, b ≠ 0xAD ∧ b ≠ 0xBD ∧ b ≠ 0x5F) : ibm1047 frb l = l := by
  cases frb
  · rfl
  · exact (List.map_congr_left fun b hb => by simp only [beq_iff_eq, h b hb, if_false, id]).trans (List.map_id l)

def lastCheckUpd (c : Core) (f : Item Vals → Item Vals) : Core :=
  ⟨c.cashLetters, c.cur, c.curBundle.map (fun b => { b with checks := modifyLast f b.checks })⟩
def lastReturnUpd (c : Core) (f : Item Vals → Item Vals) : Core :=
  ⟨c.cashLetters, c.cur, c.curBundle.map (fun b => { b with returns := modifyLast f b.returns })⟩

def coreHasChecks (c : Core) : Bool := match c.curBundle with | some b => !b.checks.isEmpty | none => false
def coreHasReturns (c : Core) : Bool := match c.curBundle with | some b => !b.returns.isEmpty | none => false

/-- attach a decoded record of kind `k` to the tree under construction (`none`: out of hierarchy, or the
container it closes does not validate) -/
def pushRec (m : Model) (c : Core) (k : Kind) (v : Vals) : Option Core :=
  match k with
  | .fileHeader | .fileControl => none
  | .cashLetterHeader =>
    if c.cur.header.isSome then none
    else some ⟨c.cashLetters, { header := some v, control := some (tmpl m .cashLetterControl) }, none⟩
  | .bundleHeader =>
    if openB c then none else if c.cur.header.isNone then none
    else some ⟨c.cashLetters, c.cur, some { header := some v, control := some (tmpl m .bundleControl) }⟩
  | .checkDetail =>
    match c.curBundle with
    | none => none
    | some b =>
      if b.header.isNone then none else if !b.returns.isEmpty then none
      else some ⟨c.cashLetters, c.cur, some { b with checks := b.checks ++ [{ detail := v }] }⟩
  | .returnDetail =>
    match c.curBundle with
    | none => none
    | some b =>
      if b.header.isNone then none else if !b.checks.isEmpty then none
      else some ⟨c.cashLetters, c.cur, some { b with returns := b.returns ++ [{ detail := v }] }⟩
  | .cdAddA => if coreHasChecks c then some (lastCheckUpd c (fun it => { it with addA := it.addA ++ [v] })) else none
  | .cdAddB => if coreHasChecks c then some (lastCheckUpd c (fun it => { it with addB := it.addB ++ [v] })) else none
  | .cdAddC => if coreHasChecks c then some (lastCheckUpd c (fun it => { it with addC := it.addC ++ [v] })) else none
  | .rdAddA => if coreHasReturns c then some (lastReturnUpd c (fun it => { it with addA := it.addA ++ [v] })) else none
  | .rdAddB => if coreHasReturns c then some (lastReturnUpd c (fun it => { it with addB := it.addB ++ [v] })) else none
  | .rdAddC => if coreHasReturns c then some (lastReturnUpd c (fun it => { it with addC := it.addC ++ [v] })) else none
  | .rdAddD => if coreHasReturns c then some (lastReturnUpd c (fun it => { it with addD := it.addD ++ [v] })) else none
  | .ivDetail =>
    if coreHasChecks c then some (lastCheckUpd c (fun it => { it with ivDetail := it.ivDetail ++ [v] }))
    else if coreHasReturns c then some (lastReturnUpd c (fun it => { it with ivDetail := it.ivDetail ++ [v] }))
    else none
  | .ivData =>
    if coreHasChecks c then some (lastCheckUpd c (fun it => { it with ivData := it.ivData ++ [v] }))
    else if coreHasReturns c then some (lastReturnUpd c (fun it => { it with ivData := it.ivData ++ [v] }))
    else none
  | .ivAnalysis =>
    if coreHasChecks c then some (lastCheckUpd c (fun it => { it with ivAnalysis := it.ivAnalysis ++ [v] }))
    else if coreHasReturns c then some (lastReturnUpd c (fun it => { it with ivAnalysis := it.ivAnalysis ++ [v] }))
    else none
  | .credit =>
    if c.cur.header.isNone then none
    else some ⟨c.cashLetters, { c.cur with credits := c.cur.credits ++ [v] }, c.curBundle⟩
  | .creditItem =>
    if c.cur.header.isNone then none
    else some ⟨c.cashLetters, { c.cur with creditItems := c.cur.creditItems ++ [v] }, c.curBundle⟩
  | .rns =>
    if c.cur.header.isNone then none
    else some ⟨c.cashLetters, { c.cur with rns := c.cur.rns ++ [some v] }, c.curBundle⟩
  | .bundleControl =>
    match c.curBundle with
    | none => none
    | some b =>
      if b.control.isNone then none
      else if (bundleValidate { b with control := some v }).isSome then none
      else some ⟨c.cashLetters, { c.cur with bundles := c.cur.bundles ++ [{ b with control := some v }] },
                 some { header := none, control := none }⟩
  | .cashLetterControl =>
    if c.cur.header.isNone then none
    else if openB c then none
    else if c.cur.control.isNone then none
    else if (cashLetterValidate m { c.cur with control := some v }).isSome then none
    else some ⟨c.cashLetters ++ [{ c.cur with control := some v }], { header := none, control := none }, none⟩

/-- the parts of the reader state a record below the file level leaves alone -/
def sameOuter (s s' : RState) : Prop :=
  s'.header = s.header ∧ s'.control = s.control ∧ s'.headerUntouched = s.headerUntouched ∧ s'.lineNum = s.lineNum

theorem ok_of_parse {ε : Type} (x : Except String Vals) (v : Vals) (h : x = .ok v) (f : String → ε) :
    (match x with
     | .ok v => (Except.ok v : Except ε Vals)
     | .error e => .error (f e)) = .ok v := by
  subst h; rfl

theorem hasChecks_core (s : RState) : hasChecks s = coreHasChecks s.core := rfl
theorem hasReturns_core (s : RState) : hasReturns s = coreHasReturns s.core := rfl

def v0Of (m : Model) (s : RState) : Kind → Vals
  | .fileHeader => s.header
  | .fileControl => s.control
  | k => v0For m s.core k

/-- the state once a record of kind `k` has been attached, leaving the tree part `c` -/
def put (s : RState) (k : Kind) (c : Core) : RState :=
  { s with recordName := k.goName, cashLetters := c.cashLetters, cur := c.cur, curBundle := c.curBundle,
           curRNS := match k with
             | .cashLetterHeader | .cashLetterControl => none
             | .rns => some {}
             | _ => s.curRNS }

/-- attach a decoded record: the two file-level records fill their slot, the others go through `pushRec` -/
def accept (m : Model) (e : Enc) (s : RState) (k : Kind) (line : Bytes) : Vals → Option RState :=
  match k with
  | .fileHeader => fun v =>
    some { s with recordName := "FileHeader", header := v,
                  headerUntouched := s.headerUntouched && !(runeCount ((if e.ebcdic then m.cm.decode else id) line) == 80) }
  | .fileControl => fun v =>
    if !(s.control.s "recordType").isEmpty || s.cur.header.isSome then none
    else some { s with recordName := "FileControl", control := v }
  | k => fun v => (pushRec m s.core k v).map (put s k)

/-- **the step function, once**: decode the record (`recParse`), attach it (`accept`); when either fails the
step fails, the state keeps everything but the record name and the error carries the line number -/
theorem rstep_eq (m : Model) (e : Enc) (s : RState) (line : Bytes) (k : Kind) (hk : kindOfLine line = some k) :
    match (recParse m e k line (v0Of m s k)).toOption.bind (accept m e s k line) with
    | some s' => rstep m e s line = .ok s'
    | none => ∃ n er, er.line = s.lineNum ∧ rstep m e s line = .error ({ s with recordName := n }, er) := by
  -- with the state taken apart and the guards decided by case, both sides evaluate: every leaf is `rfl`
  rcases s with ⟨sh, sc, scl, ⟨ch, cbs, ccr, cci, crn, cct⟩, sb, srns, sl, srn, shu⟩
  cases k with
  | fileHeader =>
    simp only [rstep, hk, recParse, v0Of, parseValidate]
    generalize RecLayout.parseRec _ _ _ _ _ = p
    cases p with
    | panic => exact ⟨_, _, by rfl, rfl⟩
    | done v =>
      simp only []
      generalize m.validateK _ v = r
      rcases r with ⟨_ | f, v'⟩ <;> first | exact rfl | exact ⟨_, _, by rfl, rfl⟩
  | fileControl =>
    simp only [rstep, hk, recParse, v0Of, parseValidate, accept]
    generalize (sc.s "recordType").isEmpty = b0
    generalize RecLayout.parseRec _ _ _ _ _ = p
    cases b0 <;> cases ch <;> cases p <;> first | exact rfl | exact ⟨_, _, by rfl, rfl⟩ | skip
    all_goals
      simp only []
      generalize m.validateK _ _ = r
      rcases r with ⟨_ | f, v'⟩ <;> first | exact rfl | exact ⟨_, _, by rfl, rfl⟩
  | cashLetterHeader | credit | creditItem | rns =>
    simp only [rstep, hk, recParse, v0Of, v0For, tmpl]
    generalize parseValidate m _ _ _ _ = x
    cases ch <;> cases x <;> first | exact rfl | exact ⟨_, _, by rfl, rfl⟩
  | bundleHeader =>
    simp only [rstep, hk, recParse, v0Of, v0For, tmpl]
    generalize parseValidate m _ _ _ _ = x
    rcases sb with _ | ⟨_ | bh, bck, br, bc⟩ <;> cases ch <;> cases x <;> first | exact rfl | exact ⟨_, _, by rfl, rfl⟩
  | checkDetail | returnDetail =>
    simp only [rstep, hk, recParse, v0Of, v0For, tmpl]
    generalize parseValidate m _ _ _ _ = x
    rcases sb with _ | ⟨_ | bh, _ | ⟨c, cs⟩, _ | ⟨r, rs⟩, bc⟩ <;> cases x <;> first | exact rfl | exact ⟨_, _, by rfl, rfl⟩
  | cdAddA | cdAddB | cdAddC =>
    simp only [rstep, hk, recParse, v0Of, v0For, tmpl]
    generalize parseValidate m _ _ _ _ = x
    rcases sb with _ | ⟨bh, _ | ⟨c, cs⟩, br, bc⟩ <;> cases x <;> first | exact rfl | exact ⟨_, _, by rfl, rfl⟩
  | rdAddA | rdAddB | rdAddC | rdAddD =>
    simp only [rstep, hk, recParse, v0Of, v0For, tmpl]
    generalize parseValidate m _ _ _ _ = x
    rcases sb with _ | ⟨bh, bck, _ | ⟨r, rs⟩, bc⟩ <;> cases x <;> first | exact rfl | exact ⟨_, _, by rfl, rfl⟩
  | ivDetail | ivData | ivAnalysis =>
    simp only [rstep, hk, recParse, v0Of, v0For, tmpl]
    generalize parseValidate m _ _ _ _ = x
    rcases sb with _ | ⟨bh, _ | ⟨c, cs⟩, _ | ⟨r, rs⟩, bc⟩ <;> cases x <;> first | exact rfl | exact ⟨_, _, by rfl, rfl⟩
  | bundleControl =>
    simp only [rstep, hk, recParse, v0Of, v0For, RState.core]
    rcases sb with _ | ⟨bh, bck, br, _ | c0⟩ <;>
      simp only [Option.bind_some, Option.bind_none, Option.getD_some, Option.getD_none] <;>
      generalize parseValidate m _ _ _ _ = x <;> cases x <;> first | exact ⟨_, _, by rfl, rfl⟩ | skip
    simp only [bind, Except.bind, Except.toOption, Option.bind_some, accept, pushRec, RState.core]
    generalize bundleValidate _ = bv
    cases bv <;> first | exact rfl | exact ⟨_, _, by rfl, rfl⟩
  | cashLetterControl =>
    simp only [rstep, hk, recParse, v0Of, v0For, RState.core]
    rcases sb with _ | ⟨_ | bh, bck, br, bc⟩ <;> cases ch <;> cases cct <;>
      simp only [Option.getD_some, Option.getD_none] <;>
      generalize parseValidate m _ _ _ _ = x <;> cases x <;> first | exact ⟨_, _, by rfl, rfl⟩ | skip
    all_goals
      simp only [bind, Except.bind, Except.toOption, Option.bind_some, accept, pushRec, RState.core]
      rename_i hd c0 v
      obtain ⟨cv, hcv⟩ : ∃ cv, cashLetterValidate m ⟨some hd, cbs, ccr, cci, crn, some v⟩ = cv := ⟨_, rfl⟩
      simp only [hcv]
      rcases cv with _ | ⟨cls, f⟩ <;> first | exact rfl | exact ⟨_, _, by rfl, rfl⟩

theorem rstep_ok_iff (m : Model) (e : Enc) (s s' : RState) (line : Bytes) (k : Kind) (hk : kindOfLine line = some k) :
    rstep m e s line = .ok s' ↔ ∃ v, recParse m e k line (v0Of m s k) = .ok v ∧ accept m e s k line v = some s' := by
  have := rstep_eq m e s line k hk
  cases hx : recParse m e k line (v0Of m s k) with
  | error f =>
    simp only [hx, Except.toOption, Option.bind_none] at this
    obtain ⟨n, er, _, h⟩ := this
    simp [h]
  | ok v =>
    simp only [hx, Except.toOption, Option.bind_some] at this
    cases ha : accept m e s k line v with
    | none =>
      simp only [ha] at this
      obtain ⟨n, er, _, h⟩ := this
      simp [h, ha]
    | some s'' =>
      simp only [ha] at this
      simp [this, ha, eq_comm]

theorem rstep_error (m : Model) (e : Enc) (s s' : RState) (line : Bytes) (er : RErr)
    (h : rstep m e s line = .error (s', er)) : (∃ n, s' = { s with recordName := n }) ∧ er.line = s.lineNum := by
  cases hk : kindOfLine line with
  | none =>
    simp only [rstep, hk, Except.error.injEq, Prod.mk.injEq] at h
    obtain ⟨rfl, rfl⟩ := h
    exact ⟨⟨_, rfl⟩, rfl⟩
  | some k =>
    have := rstep_eq m e s line k hk
    split at this
    · rw [h] at this; cases this
    · obtain ⟨n, er', hl, h'⟩ := this
      rw [h, Except.error.injEq, Prod.mk.injEq] at h'
      obtain ⟨rfl, rfl⟩ := h'
      exact ⟨⟨n, rfl⟩, hl⟩

theorem rstep_ok_kind (m : Model) (e : Enc) (s s' : RState) (line : Bytes) (h : rstep m e s line = .ok s') :
    ∃ k, kindOfLine line = some k := by
  cases hk : kindOfLine line with
  | some k => exact ⟨k, rfl⟩
  | none => simp [rstep, hk] at h

theorem inner_of_push {m : Model} {c c' : Core} {k : Kind} {v : Vals} (h : pushRec m c k v = some c') : inner k = true := by
  cases k <;> first | rfl | cases h

theorem accept_inner (m : Model) (e : Enc) (s : RState) (k : Kind) (line : Bytes) (hin : inner k = true) :
    v0Of m s k = v0For m s.core k ∧ accept m e s k line = fun v => (pushRec m s.core k v).map (put s k) := by
  cases k <;> first | exact ⟨rfl, rfl⟩ | cases hin

theorem accept_lineNum {m : Model} {e : Enc} {s s' : RState} {k : Kind} {line : Bytes} {v : Vals}
    (h : accept m e s k line v = some s') : s'.lineNum = s.lineNum := by
  rcases inner_or k with hin | rfl | rfl
  · rw [(accept_inner m e s k line hin).2] at h
    obtain ⟨c', _, rfl⟩ := Option.map_eq_some_iff.1 h
    rfl
  · cases h; rfl
  · simp only [accept] at h
    split at h <;> cases h
    rfl

theorem rstep_of_push (m : Model) (e : Enc) (s : RState) (line : Bytes) (k : Kind) (v : Vals) (c' : Core)
    (hk : kindOfLine line = some k)
    (hp : recParse m e k line (v0For m s.core k) = .ok v) (hpush : pushRec m s.core k v = some c') :
    ∃ s', rstep m e s line = .ok s' ∧ s'.core = c' ∧ sameOuter s s' := by
  obtain ⟨h0, ha⟩ := accept_inner m e s k line (inner_of_push hpush)
  exact ⟨put s k c', (rstep_ok_iff m e s _ line k hk).2 ⟨v, h0 ▸ hp, by rw [ha]; simp only [hpush, Option.map_some]⟩,
    rfl, rfl, rfl, rfl, rfl⟩

theorem push_of_rstep (m : Model) (e : Enc) (s s' : RState) (line : Bytes) (k : Kind)
    (hk : kindOfLine line = some k) (hin : inner k = true) (h : rstep m e s line = .ok s') :
    ∃ v, recParse m e k line (v0For m s.core k) = .ok v ∧ pushRec m s.core k v = some s'.core ∧ sameOuter s s' := by
  obtain ⟨v, hp, hacc⟩ := (rstep_ok_iff m e s s' line k hk).1 h
  obtain ⟨h0, ha⟩ := accept_inner m e s k line hin
  rw [ha] at hacc
  obtain ⟨c', hpush, rfl⟩ := Option.map_eq_some_iff.1 hacc
  exact ⟨v, h0 ▸ hp, hpush, rfl, rfl, rfl, rfl⟩

/-- the end-of-input checks of `Reader.Read`: a file header and a file control were read, no cash letter is open -/
def Done (s : RState) : Prop :=
  s.headerUntouched = false ∧ (s.control.s "recordType").isEmpty = false ∧ s.cur.header.isSome = false

theorem readFile_ok_iff (m : Model) (e : Enc) (input : Bytes) (f : File Vals) :
    readFile m e input = (f, none) ↔
      ∃ s, readLines m e (if e.lp then splitLP input else (splitNL input, true)).1 (initState m) = (s, none) ∧
        (if e.lp then splitLP input else (splitNL input, true)).2 = true ∧ Done s ∧ s.file = f := by
  -- the checks of `readFile` in the order of its text: each but the last ends in an error and refutes `Done`
  fun_cases readFile m e input <;> simp_all [Done, Option.isSome_iff_ne_none]

end Icl.C01
