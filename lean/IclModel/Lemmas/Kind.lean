/-
Record kinds and their type codes: how the reader's dispatch on the first two bytes (`kindOfLine`) and its
minimum-length rule (`minLen`) behave on a line that starts with the code of a known kind.
-/
import IclModel.Tree
namespace Icl

theorem Kind.mem_all (k : Kind) : k ∈ Kind.all := by cases k <;> decide

namespace C01

theorem find_kind_of_tag {k : Kind} {t : Bytes} (h : t = k.tag ∨ t = ebcTag k.tag) :
    Kind.all.find? (fun k' => t == k'.tag || t == ebcTag k'.tag) = some k := by
  rcases h with rfl | rfl <;> cases k <;> decide

/-- `switch r.line[:2]`, read the other way: a line whose first two bytes spell the type code of `k`, in ASCII or
in EBCDIC, is dispatched as `k` (the 42 spellings are pairwise distinct) -/
theorem kindOfLine_of_take (line : Bytes) (k : Kind) (h : line.take 2 = k.tag ∨ line.take 2 = ebcTag k.tag) :
    kindOfLine line = some k :=
  find_kind_of_tag h

theorem tag_length (k : Kind) : k.tag.length = 2 := by cases k <;> rfl

theorem take_tag (k : Kind) (rest : Bytes) : (k.tag ++ rest).take 2 = k.tag := by
  rw [← tag_length k, List.take_left]

theorem kindOfLine_tag (k : Kind) (rest : Bytes) : kindOfLine (k.tag ++ rest) = some k :=
  kindOfLine_of_take _ k (.inl (take_tag k rest))

theorem kindOfLine_ebcTag (k : Kind) (rest : Bytes) : kindOfLine (ebcTag k.tag ++ rest) = some k :=
  kindOfLine_of_take _ k (.inr (by rw [← tag_length k, ← List.length_map (as := k.tag), ← ebcTag, List.take_left]))

theorem tag_nonempty (k : Kind) : k.tag.isEmpty = false := by cases k <;> rfl

theorem tag_digits (k : Kind) : ∀ b ∈ k.tag, ∃ i, i < 10 ∧ b = UInt8.ofNat (48 + i) := by
  cases k <;> decide

theorem minLen_of_kind (m : Model) (e : Enc) (l : Bytes) (k : Kind) (h : kindOfLine l = some k) (hk : k ≠ .cdAddB ∧ k ≠ .rdAddC ∧ k ≠ .ivData) : minLen m e l = 80 := by
  unfold minLen
  rw [h]
  cases k <;> simp_all

end C01
end Icl
