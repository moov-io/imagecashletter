/-
The file control's record counter against the writer walk: `clRecordCount` (what File.Create adds
up) equals the number of records `CashLetter.flatten` (what Writer.Write emits) for every cash
letter whose image-view lists pass the writer's own consistency check.
-/
import IclModel.Build
namespace Icl

theorem optLen {α} (l : List α) (i : Nat) :
    (match l[i]? with | some r => [(Kind.ivData, some r)] | none => ([] : List (Kind × Option α))).length
      = if i < l.length then 1 else 0 := by
  by_cases h : i < l.length
  · simp [h]
  · simp [h]

theorem length_flatMap_append {α β} (l : List α) (f g : α → List β) :
    (l.flatMap fun i => f i ++ g i).length = (l.flatMap f).length + (l.flatMap g).length := by
  induction l with
  | nil => rfl
  | cons x r ih => simp only [List.flatMap_cons, List.length_append, ih]; omega

theorem length_flatMap_optRec {α} (k : Kind) (l : List α) (n : Nat) :
    ((List.range n).flatMap (optRec k l)).length = min n l.length := by
  induction n with
  | zero => simp
  | succ n ih =>
    rw [List.range_succ, List.flatMap_append, List.length_append, ih]
    unfold optRec
    by_cases h : n < l.length <;> simp [h] <;> omega

theorem item_flatten_length {α} (isCheck : Bool) (it : Item α) :
    (Item.flatten isCheck it).length =
      1 + it.addA.length + it.addB.length + it.addC.length + (if isCheck then 0 else it.addD.length) +
        (it.ivDetail.length + min it.ivDetail.length it.ivData.length + min it.ivDetail.length it.ivAnalysis.length) := by
  unfold Item.flatten
  simp only [List.length_append, List.length_cons, List.length_nil, List.length_map, length_flatMap_append, length_flatMap_optRec,
    Nat.min_self]
  cases isCheck <;> simp <;> omega

theorem item_count_eq_flatten (isCheck : Bool) (it : Item Vals) (h : it.imageCountsOK = true) :
    itemRecordCount isCheck it = (Item.flatten isCheck it).length := by
  rw [item_flatten_length]
  unfold itemRecordCount
  simp only [Item.imageCountsOK, Bool.and_eq_true, Bool.or_eq_true, List.isEmpty_iff, beq_iff_eq] at h
  have hd : min it.ivDetail.length it.ivData.length = it.ivData.length := by
    rcases h.1 with h0 | h1
    · simp [h0]
    · omega
  have ha : min it.ivDetail.length it.ivAnalysis.length = it.ivAnalysis.length := by
    rcases h.2 with h0 | h1
    · simp [h0]
    · omega
  rw [hd, ha]
  omega

theorem bundle_count_eq_flatten (b : Bundle Vals)
    (h : (b.checks.all Item.imageCountsOK && b.returns.all Item.imageCountsOK) = true) :
    bundleRecordCount b = (Bundle.flatten b).length := by
  simp only [Bool.and_eq_true, List.all_eq_true] at h
  unfold bundleRecordCount Bundle.flatten
  simp only [List.length_append, List.length_cons, List.length_nil, List.length_flatMap]
  rw [List.map_congr_left (fun x hx => item_count_eq_flatten true x (h.1 x hx)),
    List.map_congr_left (fun x hx => item_count_eq_flatten false x (h.2 x hx))]
  omega

theorem cl_count_eq_flatten (cl : CashLetter Vals)
    (h : cl.bundles.all (fun b => b.checks.all Item.imageCountsOK && b.returns.all Item.imageCountsOK) = true) :
    clRecordCount cl = (CashLetter.flatten cl).length := by
  simp only [List.all_eq_true] at h
  unfold clRecordCount CashLetter.flatten
  simp only [List.length_append, List.length_cons, List.length_nil, List.length_map, List.length_flatMap]
  rw [List.map_congr_left (fun b hb => bundle_count_eq_flatten b (h b hb))]
  omega

/-- **TotalRecordCount = number of records written**, for any file whose image-view lists the writer
accepts -/
theorem file_count_eq_flatten (f : File Vals) (h : f.imageCountsOK = true) :
    2 + (f.cashLetters.map clRecordCount).sum = f.flatten.length := by
  unfold File.imageCountsOK at h
  simp only [List.all_eq_true] at h
  unfold File.flatten
  simp only [List.length_append, List.length_cons, List.length_nil, List.length_flatMap]
  rw [List.map_congr_left (fun cl hcl => cl_count_eq_flatten cl (by
    simp only [List.all_eq_true]; intro b hb; exact h cl hcl b hb))]
  omega

end Icl
