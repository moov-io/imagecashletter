/-
The simulation invariant of the concurrent API model (IclModel/Conc.lean): at every point of every
schedule the store is the result of running, one after the other, the requests that have passed their
linearization point, in the order in which they passed it.
-/
import IclModel.Conc
import IclModel.Lemmas.Api
namespace Icl.Api
open Spec

/-- no two v2 creates share their generated ID, and none collides with an ID that a read-modify-write
request addresses (the server draws them with uuid.NewString) -/
def FreshOK (reqs : List Req) : Prop :=
  ∀ (i j : Nat) ri ct u fr a, reqs[i]? = some ri → reqs[j]? = some (Req.createV2 ct u fr a) → kind ri = .rmw → fr ≠ rmwId ri

theorem step_kind (r : Req) (s : Store) :
    match kind r with
    | .rmw => applyRMW r (getFile s (rmwId r)) s = step s r
    | .unlocked => (step s r).1 = s ∨ ∃ ct u fr a, r = .createV2 ct u fr a
    | .lockedWrite => True := by
  cases r with
  | list => exact .inl rfl
  | get id => exact .inl (by rw [step_get])
  | contents id => exact .inl (by rw [step_contents])
  | validate id => exact .inl (by rw [step_validate])
  | createV2 ct u fr a => exact .inr ⟨ct, u, fr, a, rfl⟩
  | createV1 ct u fr =>
    by_cases hc : (v1Parsed ct u).isSome = true
    · simp only [kind, if_pos hc]
    · have hn : v1Parsed ct u = none := by simpa using hc
      simp only [kind, if_neg hc]
      left; rw [step_createV1]; simp only [Spec.step, hn]
  | updateHeader id h | addCL id h =>
    by_cases hc : id = "" ∨ h.isNone = true
    · simp only [kind, if_pos hc, step_updateHeader, step_addCL]
      left
      split
      · rfl
      · cases h with
        | none => rfl
        | some hv => exact nomatch hc.resolve_left ‹_›
    · simp only [kind, if_neg hc, step_updateHeader, step_addCL, if_neg fun e => hc (.inl e)]
      cases h with
      | none => exact (hc (.inr rfl)).elim
      | some hv => simp only [rmwId, rmw, applyRMW]; cases getFile s id <;> rfl
  | removeCL id cid =>
    by_cases hc : id = "" ∨ cid = ""
    · simp only [kind, if_pos hc]; left; rw [step_removeCL, if_pos hc]
    · simp only [kind, if_neg hc, step_removeCL, rmwId, rmw, applyRMW]; cases getFile s id <;> rfl
  | delete id =>
    by_cases hc : id = ""
    · simp only [kind, if_pos hc]; left; rw [step_delete, if_pos hc]
    · simp only [kind, if_neg hc, step_delete, rmwId, applyRMW, deleteFile]; cases getFile s id <;> rfl

theorem applyRMW_eq_step (r : Req) (s : Store) (hk : kind r = .rmw) :
    applyRMW r (getFile s (rmwId r)) s = step s r := by
  have := step_kind r s; rw [hk] at this; exact this

structure Good (reqs : List Req) (s0 : Store) (c : Conc) : Prop where
  inv : Inv c.store
  lin : runHistory s0 (c.linReqs reqs) = (c.store, c.log.map (·.2))
  holder : ∀ (i : Nat) t, c.ths[i]? = some t → (t = Th.locked ∨ (∃ v, t = Th.got v) ∨ (∃ ρ, t = Th.committed ρ)) → c.lock = some i
  lockedKind : ∀ (i : Nat), c.ths[i]? = some Th.locked → ∃ r, reqs[i]? = some r ∧ kind r ≠ .unlocked
  gotOk : ∀ (i : Nat) v, c.ths[i]? = some (Th.got v) → ∃ r, reqs[i]? = some r ∧ kind r = .rmw ∧ getFile c.store (rmwId r) = v
  logTh : ∀ e ∈ c.log, c.ths[e.1]? = some (Th.committed e.2) ∨ c.ths[e.1]? = some (Th.done e.2)
  thLog : ∀ (i : Nat) ρ, (c.ths[i]? = some (Th.committed ρ) ∨ c.ths[i]? = some (Th.done ρ)) → (i, ρ) ∈ c.log
  nodup : (c.log.map (·.1)).Nodup
  logReq : ∀ e ∈ c.log, ∃ r, reqs[e.1]? = some r

theorem getElem?_set' {α : Type} (l : List α) (i j : Nat) (a b : α) (h : l[i]? = some b) :
    (l.set i a)[j]? = if j = i then some a else l[j]? := by
  have hlt : i < l.length := by
    rcases List.getElem?_eq_some_iff.1 h with ⟨h', _⟩; exact h'
  rw [List.getElem?_set]
  by_cases hij : i = j
  · subst hij; simp [hlt]
  · have : ¬ j = i := fun e => hij e.symm
    simp [hij, this]

theorem set_cases {α : Type} (l : List α) (i j : Nat) (a b c : α) (h : l[i]? = some b)
    (hj : (l.set i a)[j]? = some c) : (j = i ∧ c = a) ∨ (j ≠ i ∧ l[j]? = some c) := by
  rw [getElem?_set' l i j a b h] at hj
  split at hj
  · exact .inl ⟨‹_›, (Option.some.inj hj).symm⟩
  · exact .inr ⟨‹_›, hj⟩

/-- what `Good` asks of thread `i` while its handler is at position `t`, given the shared state -/
def ThOK (reqs : List Req) (st : Store) (lk : Option Nat) (log : List (Nat × Resp)) (i : Nat) : Th → Prop
  | .idle | .ready => True
  | .locked => lk = some i ∧ ∃ r, reqs[i]? = some r ∧ kind r ≠ .unlocked
  | .got v => lk = some i ∧ ∃ r, reqs[i]? = some r ∧ kind r = .rmw ∧ getFile st (rmwId r) = v
  | .committed ρ => lk = some i ∧ (i, ρ) ∈ log
  | .done ρ => (i, ρ) ∈ log

theorem Good.th {reqs : List Req} {s0 : Store} {c : Conc} (g : Good reqs s0 c) {i : Nat} {t : Th}
    (h : c.ths[i]? = some t) : ThOK reqs c.store c.lock c.log i t := by
  cases t with
  | idle | ready => trivial
  | locked => exact ⟨g.holder i _ h (.inl rfl), g.lockedKind i h⟩
  | got v => exact ⟨g.holder i _ h (.inr (.inl ⟨v, rfl⟩)), g.gotOk i v h⟩
  | committed ρ => exact ⟨g.holder i _ h (.inr (.inr ⟨ρ, rfl⟩)), g.thLog i ρ (.inl h)⟩
  | done ρ => exact g.thLog i ρ (.inr h)

theorem Good.of_th {reqs : List Req} {s0 : Store} {c : Conc} (inv : Inv c.store)
    (lin : runHistory s0 (c.linReqs reqs) = (c.store, c.log.map (·.2)))
    (th : ∀ (i : Nat) t, c.ths[i]? = some t → ThOK reqs c.store c.lock c.log i t)
    (logTh : ∀ e ∈ c.log, c.ths[e.1]? = some (Th.committed e.2) ∨ c.ths[e.1]? = some (Th.done e.2))
    (nodup : (c.log.map (·.1)).Nodup) (logReq : ∀ e ∈ c.log, ∃ r, reqs[e.1]? = some r) : Good reqs s0 c where
  inv := inv
  lin := lin
  holder := fun i t h hk => by
    have := th i t h
    rcases hk with rfl | ⟨v, rfl⟩ | ⟨ρ, rfl⟩ <;> exact this.1
  lockedKind := fun i h => (th i _ h).2
  gotOk := fun i v h => (th i _ h).2
  logTh := logTh
  thLog := fun i ρ h => by
    rcases h with h | h
    · exact (th i _ h).2
    · exact th i _ h
  nodup := nodup
  logReq := logReq

theorem good_init (reqs : List Req) (s0 : Store) (hs : Inv s0) : Good reqs s0 (Conc.init s0 reqs.length) :=
  Good.of_th hs rfl
    (fun i t h => by
      rw [Conc.init, List.getElem?_replicate] at h
      split at h <;> cases h
      trivial)
    nofun List.nodup_nil nofun

theorem ThOK.relock {reqs : List Req} {st : Store} {lk : Option Nat} {log : List (Nat × Resp)} {j : Nat} {t : Th}
    (h : ThOK reqs st lk log j t) (hne : lk ≠ some j) (lk' : Option Nat) : ThOK reqs st lk' log j t := by
  cases t with
  | idle | ready => trivial
  | done ρ => exact h
  | locked | got v | committed ρ => exact absurd h.1 hne

/-- the generic linearization step: thread `i` (not yet committed) performs its last repository action,
which on the current store is the whole handler -/
theorem good_commit (reqs : List Req) (s0 : Store) (c : Conc) (g : Good reqs s0 c) (i : Nat) (t t' : Th) (r : Req)
    (hti : c.ths[i]? = some t) (hri : reqs[i]? = some r)
    (hpre : t = .ready ∨ t = .locked ∨ ∃ v, t = .got v)
    (ht' : t' = .done (step c.store r).2 ∨ t' = .committed (step c.store r).2 ∧ c.lock = some i)
    (hstable : c.lock = some i ∨ ∀ j v rj, j ≠ i → c.ths[j]? = some (.got v) → reqs[j]? = some rj →
        getFile (step c.store r).1 (rmwId rj) = getFile c.store (rmwId rj)) :
    Good reqs s0 { c with store := (step c.store r).1, ths := c.ths.set i t', log := c.log ++ [(i, (step c.store r).2)] } := by
  have hnotlog : i ∉ c.log.map (·.1) := by
    intro hm
    rcases List.mem_map.1 hm with ⟨e, he, hei⟩
    have := g.logTh e he
    rw [hei, hti] at this
    rcases hpre with h | h | ⟨v, h⟩ <;> subst h <;> simp at this
  refine Good.of_th (inv_step c.store g.inv r) ?_ ?_ ?_ ?_ ?_
  · have : Conc.linReqs reqs { c with store := (step c.store r).1, ths := c.ths.set i t', log := c.log ++ [(i, (step c.store r).2)] }
        = c.linReqs reqs ++ [r] := by
      simp [Conc.linReqs, List.filterMap_append, hri]
    rw [this, runHistory_append, g.lin]
    simp [runHistory]
  · intro j tj hj
    rcases set_cases _ _ _ _ _ _ hti hj with ⟨rfl, rfl⟩ | ⟨hji, hj⟩
    · rcases ht' with rfl | ⟨rfl, hl⟩
      · exact List.mem_append_right _ List.mem_cons_self
      · exact ⟨hl, List.mem_append_right _ List.mem_cons_self⟩
    · have h := g.th hj
      cases tj with
      | idle | ready => trivial
      | locked => exact h
      | committed ρ => exact ⟨h.1, List.mem_append_left _ h.2⟩
      | done ρ => exact List.mem_append_left _ h
      | got v =>
        obtain ⟨hl, rj, h1, h2, h3⟩ := h
        refine ⟨hl, rj, h1, h2, ?_⟩
        rcases hstable with hi | hst
        · -- `i` holds the lock: no other thread is between its read and its write
          exact absurd (Option.some.inj (hl.symm.trans hi)) hji
        · rw [hst j v rj hji hj h1]; exact h3
  · intro e he
    simp only [List.mem_append, List.mem_singleton] at he
    simp only [getElem?_set' c.ths i _ t' t hti]
    rcases he with he | rfl
    · have hne : e.1 ≠ i := fun h => hnotlog (List.mem_map.2 ⟨e, he, h⟩)
      simp only [hne, if_false]
      exact g.logTh e he
    · simp only [if_true]
      rcases ht' with h1 | ⟨h1, -⟩ <;> simp [h1]
  · simp only [List.map_append, List.map_cons, List.map_nil]
    rw [List.nodup_append]
    refine ⟨g.nodup, by simp, ?_⟩
    intro a ha b hb
    simp only [List.mem_singleton] at hb
    subst hb
    exact fun h => hnotlog (h ▸ ha)
  · intro e he
    simp only [List.mem_append, List.mem_singleton] at he
    rcases he with he | rfl
    · exact g.logReq e he
    · exact ⟨r, hri⟩

/-- thread `i` moves without a repository action; the lock may change hands -/
theorem good_local (reqs : List Req) (s0 : Store) (c : Conc) (g : Good reqs s0 c) (i : Nat) (t t' : Th) (lk : Option Nat)
    (hti : c.ths[i]? = some t) (hnew : ThOK reqs c.store lk c.log i t')
    (hothers : ∀ j tj, j ≠ i → c.ths[j]? = some tj → ThOK reqs c.store lk c.log j tj)
    (hlog : ∀ ρ, (t = .committed ρ ∨ t = .done ρ) → (t' = .committed ρ ∨ t' = .done ρ)) :
    Good reqs s0 { c with lock := lk, ths := c.ths.set i t' } := by
  refine Good.of_th g.inv g.lin ?_ ?_ g.nodup g.logReq
  · intro j tj hj
    rcases set_cases _ _ _ _ _ _ hti hj with ⟨rfl, rfl⟩ | ⟨hji, hj⟩
    · exact hnew
    · exact hothers j tj hji hj
  · intro e he
    simp only [getElem?_set' c.ths i _ t' t hti]
    have := g.logTh e he
    by_cases hei : e.1 = i
    · rw [hei, hti] at this
      simp only [hei, if_true, Option.some.injEq] at this ⊢
      exact hlog e.2 this
    · simp only [hei, if_false]; exact this

end Icl.Api
