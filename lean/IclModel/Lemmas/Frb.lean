/-
FRB compatibility mode and validation: a syntactic criterion (`Mono`) under which switching the mode
on can only turn rejections into acceptances and never changes an accepted record, with its
soundness proof over the rule-tree evaluator.
-/
import IclModel.Lemmas.Sites
namespace Icl

def noFrbB : BExp → Bool
  | .frb => false
  | .and a b => noFrbB a && noFrbB b
  | .or a b => noFrbB a && noFrbB b
  | .not a => noFrbB a
  | _ => true

def noFrb : Stmt → Bool
  | .seq a b => noFrb a && noFrb b
  | .ite c a b => noFrbB c && noFrb a && noFrb b
  | _ => true

def VCtx.withFrb (cx : VCtx) (b : Bool) : VCtx := { cx with frb := b }

@[simp] theorem withFrb_codes (cx : VCtx) (b : Bool) : (cx.withFrb b).codes = cx.codes := rfl
@[simp] theorem withFrb_write (cx : VCtx) (b : Bool) : (cx.withFrb b).write = cx.write := rfl
@[simp] theorem withFrb_b64 (cx : VCtx) (b : Bool) : (cx.withFrb b).b64 = cx.b64 := rfl
@[simp] theorem withFrb_frb (cx : VCtx) (b : Bool) : (cx.withFrb b).frb = b := rfl

theorem evalTerm_frb (cx : VCtx) (b : Bool) (v : Vals) (t : Term) :
    evalTerm (cx.withFrb b) v t = evalTerm cx v t := by
  induction t with
  | trim t ih => simp [evalTerm, ih]
  | _ => simp [evalTerm]

theorem evalB_noFrb (cx : VCtx) (b : Bool) (v : Vals) (c : BExp) (h : noFrbB c = true) :
    evalB (cx.withFrb b) v c = evalB cx v c := by
  induction c with
  | frb => simp [noFrbB] at h
  | and x y ihx ihy | or x y ihx ihy => simp only [noFrbB, Bool.and_eq_true] at h; simp [evalB, ihx h.1, ihy h.2]
  | not x ih => simp only [noFrbB] at h; simp [evalB, ih h]
  | _ => simp [evalB, evalTerm_frb]

theorem evalS_noFrb (cx : VCtx) (b : Bool) (s : Stmt) (v : Vals) (h : noFrb s = true) :
    evalS (cx.withFrb b) s v = evalS cx s v := by
  induction s generalizing v with
  | seq x y ihx ihy =>
    simp only [noFrb, Bool.and_eq_true] at h
    simp only [evalS, ihx v h.1]
    cases evalS cx x v <;> simp [ihy _ h.2]
  | ite c x y ihx ihy =>
    simp only [noFrb, Bool.and_eq_true] at h
    simp only [evalS, evalB_noFrb cx b v c h.1.1, ihx v h.1.2, ihy v h.2]
  | _ => simp [evalS]

def alwaysRejects : Stmt → Bool
  | .reject _ => true
  | .opaque => true
  | .seq a b => alwaysRejects a || alwaysRejects b
  | .ite _ a b => alwaysRejects a && alwaysRejects b
  | _ => false

def offOnly : BExp → Bool
  | .not .frb => true
  | .and a b => offOnly a || offOnly b
  | _ => false

theorem offOnly_on (cx : VCtx) (v : Vals) (c : BExp) (h : offOnly c = true) :
    evalB (cx.withFrb true) v c = false := by
  induction c with
  | not x _ => cases x <;> simp [offOnly] at h; simp [evalB]
  | and x y ihx ihy =>
    simp only [offOnly, Bool.or_eq_true] at h
    cases h with
    | inl hx => simp [evalB, ihx hx]
    | inr hy => simp [evalB, ihy hy]
  | _ => simp [offOnly] at h

/-- the FRB normalisation shape `if f == x && frb { f = y }; if invalid(fn, f) { reject }` where the
normalised-away value `x` is itself outside the table `fn`: with the mode off such a record is rejected -/
def normaliseShape (codes : Codes) (a b : Stmt) : Bool :=
  match a, b with
  | .ite (.and (.eq (.fieldS f) (.str x)) .frb) (.assign _ _) .skip, .ite (.invalid fn (.fieldS g)) r .skip =>
    f == g && alwaysRejects r && !codeAccepts codes fn (.s x)
  | _, _ => false

def Mono (codes : Codes) : Stmt → Bool
  | .seq a b => (Mono codes a && Mono codes b) || normaliseShape codes a b
  | .ite c a b =>
    (noFrbB c && Mono codes a && Mono codes b) ||
    (offOnly c && noAssign a && noFrb a && b == .skip) ||
    (c == .frb && alwaysRejects b)
  | _ => true

theorem alwaysRejects_not_cont (cx : VCtx) (s : Stmt) (v v' : Vals) (h : alwaysRejects s = true) :
    evalS cx s v ≠ .cont v' := by
  fun_induction evalS cx s v generalizing v' with
  | case2 a b v w hea iha ihb =>
    simp only [alwaysRejects, Bool.or_eq_true] at h
    exact h.elim (fun ha => absurd hea (iha w ha)) (ihb v')
  | case3 a b v hne iha => exact hne v'
  | case4 c a b v hc iha =>
    simp only [alwaysRejects, Bool.and_eq_true] at h
    exact iha v' h.1
  | case5 c a b v hc ihb =>
    simp only [alwaysRejects, Bool.and_eq_true] at h
    exact ihb v' h.2
  | case1 | case7 => cases h
  | case6 | case8 => nofun

theorem normaliseShape_sound (cx : VCtx) (a b : Stmt) (v v' : Vals) (h : normaliseShape cx.codes a b = true)
    (hoff : evalS (cx.withFrb false) (.seq a b) v = .cont v') : evalS (cx.withFrb true) (.seq a b) v = .cont v' := by
  unfold normaliseShape at h
  split at h
  · rename_i f x f' y fn g r
    simp only [Bool.and_eq_true, beq_iff_eq, Bool.not_eq_true'] at h
    obtain ⟨⟨hfg, hr⟩, hx⟩ := h
    subst hfg
    -- mode off: the normalisation is skipped, the table check decides
    simp only [evalS, evalB, withFrb_frb, Bool.and_false, Bool.false_eq_true, if_false, evalTerm,
      withFrb_codes] at hoff
    cases hacc : codeAccepts cx.codes fn (TVal.s (v.s f)) with
    | false =>
      simp only [hacc, Bool.not_false, if_true] at hoff
      exact absurd hoff (alwaysRejects_not_cont _ r v v' hr)
    | true =>
      simp only [hacc, Bool.not_true, Bool.false_eq_true, if_false] at hoff
      have hne : (v.s f == x) = false := by
        cases hfx : (v.s f == x) with
        | false => rfl
        | true =>
          have : v.s f = x := by simpa using hfx
          rw [this, hx] at hacc; cases hacc
      simp only [evalS, evalB, withFrb_frb, evalTerm, cmpT, hne, Bool.false_and, Bool.false_eq_true, if_false,
        withFrb_codes, hacc, Bool.not_true]
      exact hoff
  · simp at h

/-- **the mode only relaxes**: if the record passes with the mode off, it passes with the mode on and
ends up as the same record -/
theorem mono_sound (cx : VCtx) (s : Stmt) (v v' : Vals) (hm : Mono cx.codes s = true)
    (hoff : evalS (cx.withFrb false) s v = .cont v') : evalS (cx.withFrb true) s v = .cont v' := by
  fun_induction evalS (cx.withFrb false) s v generalizing v' with
  | case1 v => exact hoff
  | case2 a b v w hea iha ihb =>
    simp only [Mono, Bool.or_eq_true, Bool.and_eq_true] at hm
    rcases hm with hm | hn
    · rw [evalS, iha w hm.1 hea]
      exact ihb v' hm.2 hoff
    · exact normaliseShape_sound cx a b v v' hn (by rw [evalS, hea]; exact hoff)
  | case3 a b v hne iha => exact absurd hoff (hne v')
  | case4 c a b v hc iha =>
    simp only [Mono, Bool.or_eq_true, Bool.and_eq_true, beq_iff_eq] at hm
    rcases hm with (⟨⟨hn, ha⟩, -⟩ | ⟨⟨⟨ho, hna⟩, -⟩, rfl⟩) | ⟨rfl, -⟩
    · -- the condition does not consult the mode
      rw [evalS, evalB_noFrb cx true v c hn, ← evalB_noFrb cx false v c hn, hc]
      exact iha v' ha hoff
    · -- rejection that exists only with the mode off
      rw [evalS, offOnly_on cx v c ho, evalS_noAssign_vals _ a v v' hna hoff]
      rfl
    · cases hc
  | case5 c a b v hc ihb =>
    simp only [Mono, Bool.or_eq_true, Bool.and_eq_true, beq_iff_eq] at hm
    rcases hm with (⟨⟨hn, -⟩, hb⟩ | ⟨⟨⟨ho, -⟩, -⟩, rfl⟩) | ⟨-, hb⟩
    · rw [evalS, evalB_noFrb cx true v c hn, ← evalB_noFrb cx false v c hn, if_neg hc]
      exact ihb v' hb hoff
    · rw [evalS, offOnly_on cx v c ho]
      exact hoff
    · -- `if frb { normalise } else { reject }`
      exact absurd hoff (alwaysRejects_not_cont _ b v v' hb)
  | case6 f v => cases hoff
  | case7 f x v => exact hoff
  | case8 v => cases hoff

theorem validate_mono (cx : VCtx) (s : Stmt) (v v' : Vals) (hm : Mono cx.codes s = true)
    (hoff : validate (cx.withFrb false) s v = (none, v')) : validate (cx.withFrb true) s v = (none, v') := by
  unfold validate at hoff ⊢
  cases he : evalS (cx.withFrb false) s v with
  | cont w =>
    rw [he] at hoff
    rw [mono_sound cx s v w hm he]
    exact hoff
  | rejected f => rw [he] at hoff; cases hoff
  | stuck => rw [he] at hoff; cases hoff

end Icl
