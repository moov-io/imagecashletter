/-
Lemmas that connect the positions written in the Spec tables (`start`, `width`) with the
byte offsets computed by `render`.
-/
import IclModel.Lemmas.Render
import IclModel.Spec.Types
import IclModel.Lemmas.Table
namespace Icl
open Spec

theorem fixedWidth_append (a b : List WField) : fixedWidth (a ++ b) = fixedWidth a + fixedWidth b := by
  induction a with
  | nil => simp [fixedWidth]
  | cons f r ih => simp [fixedWidth, ih]; omega

theorem contiguousFrom_start (p : Nat) (fs : List SField) (h : contiguousFrom p fs = true)
    (i : Nat) (hi : i < fs.length) : fs[i].start = p + fixedWidth (toWrite (fs.take i)) := by
  induction fs generalizing p i with
  | nil => simp at hi
  | cons f r ih =>
    simp only [contiguousFrom, Bool.and_eq_true, beq_iff_eq] at h
    cases i with
    | zero => simp [toWrite, fixedWidth, h.1]
    | succ j =>
      have := ih (p + f.width) h.2 j (by simpa using hi)
      simp only [List.getElem_cons_succ, List.take_succ_cons, toWrite, List.map_cons, fixedWidth] at this ⊢
      rw [this]; simp [SField.toW]; omega

theorem toWrite_take (fs : List SField) (i : Nat) : toWrite (fs.take i) = (toWrite fs).take i :=
  List.map_take

theorem render_columns_spec (b64 : Bytes → Option Bytes) (fs : List SField) (incl : Bool) (v : Vals)
    (hw : AllWf (toWrite fs) = true) (ht : TypeSet v) (i : Nat) (hi : i < fs.length) :
    ((render b64 (toWrite fs) incl v).drop (sumLen b64 incl v (toWrite (fs.take i)))).take
      (fieldBytes b64 incl fs[i].toW v).length = fieldBytes b64 incl fs[i].toW v := by
  have hi' : i < (toWrite fs).length := by simpa [toWrite] using hi
  have hcol := render_columns b64 ((toWrite fs).take i) (toWrite fs)[i] ((toWrite fs).drop (i + 1)) incl v
    (all_of_subset hw (List.take_subset i _)) ht
  rwa [show (toWrite fs).take i ++ (toWrite fs)[i] :: (toWrite fs).drop (i + 1) = toWrite fs by simp,
    show (toWrite fs)[i] = fs[i].toW by simp [toWrite], ← toWrite_take] at hcol

/-- **columns, fixed-width records, in the Spec's own coordinates**: whatever the values, columns
`[start, start+width)` of the rendered record are exactly the field's converter output. -/
theorem render_columns_fixed (b64 : Bytes → Option Bytes) (fs : List SField) (incl : Bool) (v : Vals)
    (hc : Contiguous fs = true) (hw : AllWf (toWrite fs) = true) (hf : AllFixed (toWrite fs) = true)
    (ht : TypeSet v) (i : Nat) (hi : i < fs.length) :
    ((render b64 (toWrite fs) incl v).drop fs[i].start).take fs[i].width
      = renderField b64 fs[i].toW v := by
  have hcol := render_columns_spec b64 fs incl v hw ht i hi
  have hmem : fs[i].toW ∈ toWrite fs := List.mem_map_of_mem (List.getElem_mem hi)
  have hfi := List.all_eq_true.1 hf _ hmem
  simp only [Bool.and_eq_true, Bool.not_eq_true'] at hfi
  have hstart := contiguousFrom_start 0 fs hc i hi
  rw [Nat.zero_add] at hstart
  rwa [sumLen_fixed b64 _ incl v (toWrite_take fs i ▸ all_of_subset hf (List.take_subset i _)), ← hstart,
    show fieldBytes b64 incl fs[i].toW v = renderField b64 fs[i].toW v by simp [fieldBytes, hfi.2],
    renderField_length b64 _ v (List.all_eq_true.1 hw _ hmem) ht, lenOf_fixed b64 _ v hfi.1] at hcol

def sectionsBefore (fs : List SField) (i : Nat) : List WField :=
  (toWrite (fs.take i)).filter (fun f => !FixedConv f.conv)

/-- **columns, records with variable sections**: field `i` starts at its tabulated column plus the
sizes of the variable sections before it (the "(118+X+Y)" of the standard) and holds exactly its own
rendering, whatever the values. -/
theorem render_columns_var (b64 : Bytes → Option Bytes) (fs : List SField) (incl : Bool) (v : Vals)
    (hc : Contiguous fs = true) (hw : AllWf (toWrite fs) = true) (hio : FixedNotImage (toWrite fs) = true)
    (ht : TypeSet v) (i : Nat) (hi : i < fs.length) :
    ((render b64 (toWrite fs) incl v).drop
        (fs[i].start + sumLen b64 incl v (sectionsBefore fs i))).take
      (fieldBytes b64 incl fs[i].toW v).length = fieldBytes b64 incl fs[i].toW v := by
  have hcol := render_columns_spec b64 fs incl v hw ht i hi
  have hstart := contiguousFrom_start 0 fs hc i hi
  rw [Nat.zero_add] at hstart
  rwa [sumLen_filter b64 _ incl v (toWrite_take fs i ▸ all_of_subset hw (List.take_subset i _)) (toWrite_take fs i ▸ all_of_subset hio (List.take_subset i _)),
    ← hstart] at hcol

end Icl
