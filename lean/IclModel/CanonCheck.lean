/-
An executable rendition of the hypothesis `CanonFile` / `RecCanon` of the end-to-end C01 theorems
(Props/C01Rec.lean), for the driver: evaluated on the canonical files the harness generates it shows the
hypothesis is met (non-vacuity) and, on files with non-canonical values, that it is not trivially true.
`canonFieldB_sound`: the Boolean field check implies the `Prop` the theorems use.  Equality of record values
(`shaped`, `valid`) is decided on the members the record's layout names (values are functions).
-/
import IclModel.Lemmas.RecCanon
import IclModel.Lemmas.RecCanonE
import IclModel.FileOKCheck
namespace Icl.C01
open Icl Icl.Wire

def anchorB (b : UInt8) : Bool := decide (b.toNat < 128) && !asciiSpace b

def trimmedB (s : Bytes) : Bool :=
  match s, s.reverse with
  | [], _ => true
  | b :: _, b' :: _ => anchorB b && anchorB b'
  | _, _ => false

theorem trimmedB_sound (s : Bytes) (h : trimmedB s = true) : Trimmed s := by
  unfold trimmedB at h
  split at h
  · exact .inl rfl
  · next b r b' r' hr =>
    simp only [anchorB, Bool.and_eq_true, decide_eq_true_eq, Bool.not_eq_true'] at h
    exact .inr ⟨⟨b, r, rfl, h.1⟩, ⟨b', r', hr, h.2⟩⟩
  · cases h

def lenOKB (v : Vals) (lf : String) : Bool := decide (0 ≤ parseNum (v.s lf)) && decide (parseNum (v.s lf) < (maxGrow : Int))

def canonFieldB (b64 : Bytes → Option Bytes) (raws : List String) (f : WField) (v : Vals) : Bool :=
  match f.conv with
  | .alpha => if raws.contains f.src then (v.s f.src).length == f.width else trimmedB (v.s f.src) && decide ((v.s f.src).length ≤ f.width)
  | .nbsm => trimmedB (v.s f.src) && decide ((v.s f.src).length ≤ f.width)
  | .zstr => trimmedB (v.s f.src) && (v.s f.src).length == f.width
  | .numeric | .numericBlankNonPos =>
    decide (0 ≤ v.i f.src) && decide (v.i f.src < 9223372036854775808) && decide ((itoa (v.i f.src)).length ≤ f.width)
  | .date | .dateBlankZero => (v.d f.src).valid
  | .time => (v.t f.src).valid && !(v.t f.src).z
  | .alphaVar => lenOKB v f.lenField && trimmedB (v.s f.src) && decide ((v.s f.src).length ≤ widthOfLen v f.lenField)
  | .bytesVar => lenOKB v f.lenField && (v.s f.src).length == widthOfLen v f.lenField
  | .image => lenOKB v f.lenField && (b64 (v.s f.src)).isNone && (v.s f.src).length == widthOfLen v f.lenField
  | _ => true

theorem lenOKB_iff (v : Vals) (lf : String) : lenOKB v lf = true ↔ LenOK v lf := by
  simp [lenOKB, LenOK]

theorem canonFieldB_sound (b64 : Bytes → Option Bytes) (raws : List String) (f : WField) (v : Vals)
    (h : canonFieldB b64 raws f v = true) : CanonField b64 raws f v := by
  unfold canonFieldB at h
  unfold CanonField
  cases hc : f.conv <;> simp only
  -- each clause of the check is the predicate's clause as a `Bool`, except `trimmedB`, which only implies `Trimmed`
  all_goals simp only [hc, lenOKB_iff, Bool.and_eq_true, decide_eq_true_eq, beq_iff_eq, Bool.not_eq_true',
    Option.isNone_iff_eq_none, Bool.ite_eq_true_distrib, and_assoc] at h
  case alpha =>
    by_cases hr : raws.contains f.src = true
    · rw [if_pos hr] at h ⊢; exact h
    · rw [if_neg hr] at h ⊢; exact ⟨trimmedB_sound _ h.1, h.2⟩
  case nbsm => exact ⟨trimmedB_sound _ h.1, h.2⟩
  case zstr => exact ⟨trimmedB_sound _ h.1, h.2⟩
  case alphaVar => exact ⟨h.1, trimmedB_sound _ h.2.1, h.2.2⟩
  all_goals exact h

/-- the decidable part of `RecCanonFrom m k v0 v`; "" = holds, otherwise which part fails -/
def recCanonWhy (m : Model) (k : Kind) (v0 v : Vals) : String :=
  let L := m.layout k
  let line := render m.b64 L.write true v
  if !(v.s "recordType" == k.tag) then "typeSet"
  else match L.write.find? (fun f => (isVarConv f.conv || (assignDsts L.parse).contains f.src) &&
      !canonFieldB m.b64 (rawDsts L.parse) f v) with
  | some f => "field " ++ f.src
  | none =>
    if L.parse.any usesRunes && !(runeCount line == line.length) then "runes"
    else if !sameVals m k (replay m.now L.setType v L.parse v0) v then "shaped"
    else match m.validateK k v with
      | (some fld, _) => "invalid " ++ fld
      | (none, v') => if sameVals m k v' v then "" else "normalised"

def recCanonFirst (m : Model) (k : Kind) (vs : List Vals) : String :=
  match (vs.map (fun v => recCanonWhy m k (tmpl m k) v)).find? (· != "") with
  | some w => k.goName ++ ": " ++ w
  | none => ""

def firstNonEmpty (l : List String) : String := (l.find? (· != "")).getD ""

def itemCanonWhy (m : Model) (isCheck : Bool) (it : Item Vals) : String :=
  firstNonEmpty [
    recCanonFirst m (if isCheck then .checkDetail else .returnDetail) [it.detail],
    recCanonFirst m (if isCheck then .cdAddA else .rdAddA) it.addA,
    recCanonFirst m (if isCheck then .cdAddB else .rdAddB) it.addB,
    recCanonFirst m (if isCheck then .cdAddC else .rdAddC) it.addC,
    recCanonFirst m .rdAddD it.addD, recCanonFirst m .ivDetail it.ivDetail, recCanonFirst m .ivData it.ivData,
    recCanonFirst m .ivAnalysis it.ivAnalysis,
    if isCheck && !it.addD.isEmpty then "check with addendum D" else "",
    if it.ivData.length ≤ it.ivDetail.length && it.ivAnalysis.length ≤ it.ivDetail.length then "" else "image view counts"]

def bundleCanonWhy (m : Model) (b : Bundle Vals) : String :=
  firstNonEmpty [
    (match b.header with | some h => recCanonFirst m .bundleHeader [h] | none => "bundle header missing"),
    (match b.control with | some c => recCanonFirst m .bundleControl [c] | none => "bundle control missing"),
    if b.checks.isEmpty || b.returns.isEmpty then "" else "mixed bundle",
    (match bundleValidate b with | none => "" | some f => "bundleValidate " ++ f),
    firstNonEmpty (b.checks.map (itemCanonWhy m true)), firstNonEmpty (b.returns.map (itemCanonWhy m false))]

def cashLetterCanonWhy (m : Model) (cl : CashLetter Vals) : String :=
  firstNonEmpty [
    (match cl.header with | some h => recCanonFirst m .cashLetterHeader [h] | none => "cash letter header missing"),
    (match cl.control with | some c => recCanonFirst m .cashLetterControl [c] | none => "cash letter control missing"),
    if cl.rns.all (·.isSome) then "" else "nil summary",
    (match cashLetterValidate m cl with | none => "" | some (_, f) => "cashLetterValidate " ++ f),
    recCanonFirst m .creditItem cl.creditItems, recCanonFirst m .credit cl.credits,
    recCanonFirst m .rns (cl.rns.filterMap id), firstNonEmpty (cl.bundles.map (bundleCanonWhy m))]

/-- the decidable part of `CanonFile m f`: "" when it holds -/
def canonFileWhy (m : Model) (f : File Vals) : String :=
  firstNonEmpty [
    recCanonFirst m .fileHeader [f.header],
    (let w := recCanonWhy m .fileControl {} f.control; if w == "" then "" else "FileControl: " ++ w),
    firstNonEmpty (f.cashLetters.map (cashLetterCanonWhy m))]


/-! ### the additional hypothesis of the EBCDIC theorems (`CanonFileE`): text the code page carries -/

def safeWhy (m : Model) (krs : List (Kind × Option Vals)) : String :=
  match krs.find? (fun kr => match kr.2 with
      | some v =>
        if kr.1 == .ivData then !(render m.b64 (m.layout .ivData).write false v).all (safeB m.cm)
        else !(lineOf m kr.1 (some v)).all (safeB m.cm)
      | none => true) with
  | none => ""
  | some kr => kr.1.goName ++ ": text outside the code page"

/-- the decidable part of `CanonFileE m f`: "" when it holds -/
def canonFileEWhy (m : Model) (f : File Vals) : String :=
  firstNonEmpty [canonFileWhy m f, safeWhy m f.flatten]

end Icl.C01
