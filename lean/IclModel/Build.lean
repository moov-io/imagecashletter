/-
L5 — building: `Bundle.build`, `CashLetter.build` / `Create`, `File.Create`, transcribed from
bundle.go, cashLetter.go, file.go.  Hand-written; tied to the code by the `build` correspondence
stream (generated trees built by the real Create() calls and by this model).
-/
import IclModel.Tree
namespace Icl

/-- (error class, field) of a failed build/validation -/
abbrev BErr := ErrClass × String

def vErr (m : Model) (k : Kind) (v : Vals) : Option BErr :=
  match m.validateK k v with
  | (none, _) => none
  | (some f, _) => some (.field, f)

def firstErr {α} (f : α → Option BErr) : List α → Option BErr
  | [] => none
  | x :: r => match f x with
    | some e => some e
    | none => firstErr f r

/-- `Bundle.ValidateForwardItems` -/
def validateForwardItems (m : Model) (cd : Item Vals) : Option BErr :=
  (firstErr (vErr m .cdAddA) cd.addA).or <|
  (firstErr (vErr m .cdAddB) cd.addB).or <|
  (firstErr (vErr m .cdAddC) cd.addC).or <|
  (firstErr (vErr m .ivDetail) cd.ivDetail).or <|
  (firstErr (vErr m .ivData) cd.ivData).or <|
  (firstErr (vErr m .ivAnalysis) cd.ivAnalysis)

/-- `Bundle.ValidateReturnItems` -/
def validateReturnItems (m : Model) (rd : Item Vals) : Option BErr :=
  (firstErr (vErr m .rdAddA) rd.addA).or <|
  (firstErr (vErr m .rdAddB) rd.addB).or <|
  (firstErr (vErr m .rdAddC) rd.addC).or <|
  (firstErr (vErr m .rdAddD) rd.addD).or <|
  (firstErr (vErr m .ivDetail) rd.ivDetail).or <|
  (firstErr (vErr m .ivData) rd.ivData).or <|
  (firstErr (vErr m .ivAnalysis) rd.ivAnalysis)

/-- item record first, then its addenda and image views -/
def validateCheck (m : Model) (cd : Item Vals) : Option BErr :=
  (vErr m .checkDetail cd.detail).or (validateForwardItems m cd)

def validateReturn (m : Model) (rd : Item Vals) : Option BErr :=
  (vErr m .returnDetail rd.detail).or (validateReturnItems m rd)

def sumInt (l : List Int) : Int := l.foldl (· + ·) 0

/-- the control record `Bundle.build()` creates: recounted totals, caller-settable members kept -/
def bundleControlOf (m : Model) (b : Bundle Vals) : Vals :=
  let items := b.checks ++ b.returns
  let amount := sumInt (items.map (fun i => i.detail.i "ItemAmount"))
  let micr := sumInt (b.checks.map (fun i => if i.detail.i "MICRValidIndicator" == 1 then i.detail.i "ItemAmount" else 0))
  let images := sumInt (items.map (fun i => (i.ivDetail.length : Int)))
  let b0 := (m.layout .bundleControl).new m.now
  let b1 := b0.setI "BundleItemsCount" items.length
  let b2 := b1.setI "BundleTotalAmount" amount
  let b3 := b2.setI "MICRValidTotalAmount" micr
  let b4 := b3.setI "BundleImagesCount" images
  let b5 := b4.setI "CreditTotalIndicator" 0
  match b.control with
  | some old => (b5.setS "ID" (old.s "ID")).setS "UserField" (old.s "UserField")
  | none => b5

/-- `Bundle.build()`: validate header, items and the new control; replace the control -/
def bundleBuild (m : Model) (b : Bundle Vals) : Except BErr (Bundle Vals) :=
  match (match b.header with | some h => vErr m .bundleHeader h | none => none) with
  | some e => .error e
  | none =>
    if b.checks.isEmpty && b.returns.isEmpty then .error (.bundle, "entries")
    else
      match (firstErr (validateCheck m) b.checks).or (firstErr (validateReturn m) b.returns) with
      | some e => .error e
      | none =>
        match vErr m .bundleControl (bundleControlOf m b) with
        | some e => .error e
        | none => .ok { b with control := some (bundleControlOf m b) }

/-- everything a successful `Bundle.build()` went through -/
theorem bundleBuild_inv (m : Model) (b b' : Bundle Vals) (h : bundleBuild m b = .ok b') :
    (∀ hd, b.header = some hd → vErr m .bundleHeader hd = none) ∧
    firstErr (validateCheck m) b.checks = none ∧ firstErr (validateReturn m) b.returns = none ∧
    vErr m .bundleControl (bundleControlOf m b) = none ∧ b' = { b with control := some (bundleControlOf m b) } := by
  revert h
  fun_cases bundleBuild m b <;> intro h
  case case5 hhdr he hitems hctl =>
    rw [Option.or_eq_none_iff] at hitems
    exact ⟨fun hd hh => by rw [hh] at hhdr; exact hhdr, hitems.1, hitems.2, hctl, (Except.ok.inj h).symm⟩
  all_goals cases h

/-- what a successful `Bundle.build()` returns -/
theorem bundleBuild_ok (m : Model) (b b' : Bundle Vals) (h : bundleBuild m b = .ok b') :
    b' = { b with control := some (bundleControlOf m b) } :=
  (bundleBuild_inv m b b' h).2.2.2.2

/-- record numbers 1..limit, wrapping back to 1 -/
def recNums (limit : Nat) (n : Nat) : List Int :=
  (List.range n).map (fun i => ((i % limit + 1 : Nat) : Int))

def zipSet (vs : List Vals) (f : Vals → Int → Vals) (ns : List Int) : List Vals :=
  (vs.zip ns).map (fun p => f p.1 p.2)

/-- the sequence number an item ends up with: its own when supplied, else the running counter -/
def seqOf (counter : Int) (it : Item Vals) : Int :=
  if (it.detail.s "EceInstitutionItemSequenceNumber").isEmpty then counter
  else parseNum (it.detail.s "EceInstitutionItemSequenceNumber")

/-- numbering of the check items of one bundle, threading the sequence counter -/
def numberChecks : Int → List (Item Vals) → List (Item Vals)
  | _, [] => []
  | counter, cd :: r =>
    let seq := seqOf counter cd
    let d := cd.detail.setS "EceInstitutionItemSequenceNumber" (numericField seq 15)
    let a := zipSet cd.addA (fun v n => (v.setS "BOFDItemSequenceNumber" (numericField seq 15)).setI "RecordNumber" n) (recNums 9 cd.addA.length)
    let c := zipSet cd.addC (fun v n => (v.setS "EndorsingBankItemSequenceNumber" (itoa seq)).setI "RecordNumber" n) (recNums 99 cd.addC.length)
    { cd with detail := d, addA := a, addC := c } :: numberChecks (seq + 1) r

def numberReturns : Int → List (Item Vals) → List (Item Vals)
  | _, [] => []
  | counter, rd :: r =>
    let seq := seqOf counter rd
    let d := rd.detail.setS "EceInstitutionItemSequenceNumber" (itoa seq)
    let a := zipSet rd.addA (fun v n => (v.setS "BOFDItemSequenceNumber" (itoa seq)).setI "RecordNumber" n) (recNums 9 rd.addA.length)
    let dd := zipSet rd.addD (fun v n => (v.setS "EndorsingBankItemSequenceNumber" (itoa seq)).setI "RecordNumber" n) (recNums 99 rd.addD.length)
    { rd with detail := d, addA := a, addD := dd } :: numberReturns (seq + 1) r

/-- the bundle loop of `CashLetter.build` -/
def buildBundles (m : Model) : Nat → List (Bundle Vals) → Except BErr (List (Bundle Vals))
  | _, [] => .ok []
  | n, b :: r =>
    match b.header with
    | none => .error (.cashLetter, "Bundles")
    | some h =>
      let b1 : Bundle Vals := { b with header := some (h.setS "BundleSequenceNumber" (numericField n 4)),
                                       checks := numberChecks 1 b.checks, returns := numberReturns 1 b.returns }
      match bundleValidate b1 with
      | some f => .error (.bundle, f)
      | none =>
        match bundleBuild m b1 with
        | .error e => .error e
        | .ok b2 =>
          match buildBundles m (n + 1) r with
          | .error e => .error e
          | .ok rs => .ok (b2 :: rs)

/-- `CashLetter.build()` -/
def cashLetterBuild (m : Model) (cl : CashLetter Vals) : Except BErr (CashLetter Vals) :=
  match cl.header with
  | none => .error (.plain, "nil CashLetterHeader")
  | some h =>
    match vErr m .cashLetterHeader h with
    | some e => .error e
    | none =>
      if cl.bundles.any (fun b => b.header.isNone) then .error (.cashLetter, "Bundles")
      else
        match buildBundles m 1 cl.bundles with
        | .error e => .error e
        | .ok bs =>
          let items := bs.flatMap (fun b => b.checks ++ b.returns)
          let credit : Int := if cl.creditItems.isEmpty then 0 else 1
          let c0 := (m.layout .cashLetterControl).new m.now
          let c1 := c0.setI "CashLetterBundleCount" bs.length
          let c2 := c1.setI "CashLetterItemsCount" (items.length + cl.creditItems.length)
          let c3 := c2.setI "CashLetterTotalAmount" (sumInt (items.map (fun i => i.detail.i "ItemAmount")))
          let c4 := c3.setI "CashLetterImagesCount" (sumInt (items.map (fun i => (i.ivDetail.length : Int))))
          let name : Bytes := match cl.control with
            | some c => if (c.s "ECEInstitutionName").isEmpty then h.s "ECEInstitutionRoutingNumber" else c.s "ECEInstitutionName"
            | none => h.s "ECEInstitutionRoutingNumber"
          let c5 := c4.setS "ECEInstitutionName" name
          let c6 := c5.setI "CreditTotalIndicator" credit
          let clc := match cl.control with
            | some old =>
              let c7 := c6.setS "ID" (old.s "ID")
              if (old.d "SettlementDate").isZero then c7 else c7.setD "SettlementDate" (old.d "SettlementDate")
            | none => c6
          .ok { cl with bundles := bs, control := some clc }

/-- `CashLetter.Create()` = build, then Validate -/
def cashLetterCreate (m : Model) (cl : CashLetter Vals) : Except BErr (CashLetter Vals) :=
  match cashLetterBuild m cl with
  | .error e => .error e
  | .ok c =>
    match cashLetterValidate m c with
    | some e => .error e
    | none => .ok c

/-- records of a cash letter that `File.Create` counts -/
def itemRecordCount (isCheck : Bool) (c : Item Vals) : Nat :=
  1 + c.addA.length + c.addB.length + c.addC.length + (if isCheck then 0 else c.addD.length) +
    c.ivDetail.length + c.ivData.length + c.ivAnalysis.length

def bundleRecordCount (b : Bundle Vals) : Nat :=
  2 + (b.checks.map (itemRecordCount true)).sum + (b.returns.map (itemRecordCount false)).sum

def clRecordCount (cl : CashLetter Vals) : Nat :=
  2 + cl.creditItems.length + cl.credits.length + cl.rns.length + (cl.bundles.map bundleRecordCount).sum

def fileBundles (m : Model) : List (Bundle Vals) → Except BErr (List (Bundle Vals))
  | [] => .ok []
  | b :: r =>
    match bundleValidate b with
    | some f => .error (.bundle, f)
    | none =>
      match bundleBuild m b with
      | .error e => .error e
      | .ok b2 =>
        match fileBundles m r with
        | .error e => .error e
        | .ok rs => .ok (b2 :: rs)

def fileCashLetters (m : Model) : List (CashLetter Vals) → Except BErr (List (CashLetter Vals))
  | [] => .ok []
  | cl :: r =>
    match (cashLetterValidate m cl).or <|
        ((match cl.header with | some h => vErr m .cashLetterHeader h | none => none).or <|
         (firstErr (vErr m .creditItem) cl.creditItems).or <|
         (firstErr (vErr m .credit) cl.credits).or <|
         (firstErr (fun r => match r with | some v => vErr m .rns v | none => some (.file, "RoutingNumberSummary")) cl.rns)) with
    | some e => .error e
    | none =>
      match fileBundles m cl.bundles with
      | .error e => .error e
      | .ok bs =>
        match fileCashLetters m r with
        | .error e => .error e
        | .ok rs => .ok ({ cl with bundles := bs } :: rs)

/-- the control record `File.Create()` creates from the (re)built cash letters -/
def fileControlOf (m : Model) (f : File Vals) (cls : List (CashLetter Vals)) : Vals :=
  let items := cls.flatMap (fun cl => cl.bundles.flatMap (fun b => b.checks ++ b.returns))
  let credit : Int := if cls.any (fun cl => !cl.creditItems.isEmpty) then 1 else 0
  let total : Nat := 2 + (cls.map clRecordCount).sum
  let fc0 := (m.layout .fileControl).new m.now
  let fc1 := fc0.setI "CashLetterCount" cls.length
  let fc2 := fc1.setI "TotalRecordCount" (total : Int)
  let fc3 := fc2.setI "TotalItemCount" items.length
  let fc4 := fc3.setI "FileTotalAmount" (sumInt (items.map (fun i => i.detail.i "ItemAmount")))
  let fc5 := fc4.setS "ImmediateOriginContactName" (f.control.s "ImmediateOriginContactName")
  let fc6 := fc5.setS "ImmediateOriginContactPhoneNumber" (f.control.s "ImmediateOriginContactPhoneNumber")
  (fc6.setI "CreditTotalIndicator" credit).setS "ID" (f.control.s "ID")

/-- `File.Create()` -/
def fileCreate (m : Model) (f : File Vals) : Except BErr (File Vals) :=
  match vErr m .fileHeader f.header with
  | some e => .error e
  | none =>
    if f.cashLetters.isEmpty then .error (.file, "CashLetters")
    else
      match fileCashLetters m f.cashLetters with
      | .error e => .error e
      | .ok cls =>
        if !m.accepts "isAlphanumericSpecial" (f.control.s "ImmediateOriginContactName") then
          .error (.field, "ImmediateOriginContactName")
        else if !m.accepts "isNumeric" (f.control.s "ImmediateOriginContactPhoneNumber") then
          .error (.field, "ImmediateOriginContactPhoneNumber")
        else .ok { f with cashLetters := cls, control := fileControlOf m f cls }

/-- everything a successful `File.Create()` went through -/
theorem fileCreate_inv (m : Model) (f f' : File Vals) (h : fileCreate m f = .ok f') :
    ∃ cls, vErr m .fileHeader f.header = none ∧ f.cashLetters.isEmpty = false ∧
      fileCashLetters m f.cashLetters = .ok cls ∧
      m.accepts "isAlphanumericSpecial" (f.control.s "ImmediateOriginContactName") = true ∧
      m.accepts "isNumeric" (f.control.s "ImmediateOriginContactPhoneNumber") = true ∧
      f' = { f with cashLetters := cls, control := fileControlOf m f cls } := by
  revert h
  fun_cases fileCreate m f <;> intro h
  case case6 hh he cls hcls hn hp =>
    exact ⟨cls, hh, by simpa using he, hcls, by simpa using hn, by simpa using hp, (Except.ok.inj h).symm⟩
  all_goals cases h

/-- what "a file and its cash letters have been built" means: every `CashLetter.Create()`, then `File.Create()` -/
def buildAll (m : Model) (f : File Vals) : Except BErr (File Vals) :=
  let rec go : List (CashLetter Vals) → Except BErr (List (CashLetter Vals))
    | [] => .ok []
    | cl :: r =>
      match cashLetterCreate m cl with
      | .error e => .error e
      | .ok c => match go r with
        | .error e => .error e
        | .ok rs => .ok (c :: rs)
  match go f.cashLetters with
  | .error e => .error e
  | .ok cls => fileCreate m { f with cashLetters := cls }

end Icl
