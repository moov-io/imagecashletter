/-
The record handlers of reader.go (every case of `Reader.parseLine` with the `parse*` method it calls inlined) are
TRANSLATED statement by statement into Lean (Gen/ReaderT.lean, regenerated on every run).  For every record kind,
every reader state and every line of that kind the translated case and the reader model `rstep` (Tree.lean - the
function the C04 / C18 theorems speak about) agree: on success they leave the same reader state; on failure they
report the same error and leave the same partial file.
-/
import IclModel.Gen.ReaderT
import IclModel.Lemmas.Reassemble
import IclModel.Lemmas.Kind
namespace Icl.ReaderEq
open Icl

/-- what `Read` lets a caller see of one step: the next state, or the error with the partial file -/
def obs (r : Except (RState × RErr) RState) : Except (File Vals × RErr) RState :=
  match r with
  | .ok s => .ok s
  | .error (s, e) => .error (s.file, e)

theorem obs_cases {a b : Except (RState × RErr) RState} (h : obs a = obs b) :
    (∃ s, a = .ok s ∧ b = .ok s) ∨ (∃ s1 s2 er, a = .error (s1, er) ∧ b = .error (s2, er) ∧ s1.file = s2.file) := by
  rcases a with ⟨s1, e1⟩ | s1 <;> rcases b with ⟨s2, e2⟩ | s2 <;> simp only [obs, Except.ok.injEq, Except.error.injEq, Prod.mk.injEq, reduceCtorEq] at h
  · exact .inr ⟨s1, s2, e1, rfl, by rw [h.2], h.1⟩
  · exact .inl ⟨s1, rfl, by rw [h]⟩

theorem ibm_eq (frb ebc : Bool) (line : Bytes) :
    (if ebc = true then ibm1047 frb line else line) = ibm1047 (frb && ebc) line := by
  cases frb <;> cases ebc <;> simp [ibm1047]

/-- the handler the switch is expected to call for each record kind -/
def handlerName : Kind → String
  | .fileHeader => "parseFileHeader"
  | .cashLetterHeader => "parseCashLetterHeader"
  | .bundleHeader => "parseBundleHeader"
  | .checkDetail => "parseCheckDetail"
  | .cdAddA => "parseCheckDetailAddendumA"
  | .cdAddB => "parseCheckDetailAddendumB"
  | .cdAddC => "parseCheckDetailAddendumC"
  | .returnDetail => "parseReturnDetail"
  | .rdAddA => "parseReturnDetailAddendumA"
  | .rdAddB => "parseReturnDetailAddendumB"
  | .rdAddC => "parseReturnDetailAddendumC"
  | .rdAddD => "parseReturnDetailAddendumD"
  | .ivDetail => "parseImageViewDetail"
  | .ivData => "parseImageViewData"
  | .ivAnalysis => "parseImageViewAnalysis"
  | .credit => "parseCredit"
  | .creditItem => "parseCreditItem"
  | .bundleControl => "parseBundleControl"
  | .rns => "parseRoutingNumberSummary"
  | .cashLetterControl => "parseCashLetterControl"
  | .fileControl => "parseFileControl"


/-- every translated case agrees with the model's step on the lines of its kind: the translated text of a case is
the model's case up to the helpers of ReaderRT, so with the state taken apart and the guards decided both sides
evaluate to the same value -/
theorem handlerFor_eq (m : Model) (e : Enc) (s : RState) (line : Bytes) (k : Kind) (hk : kindOfLine line = some k) :
    obs (Gen.R.handlerOf (handlerName k) m e s line) = obs (rstep m e s line) := by
  rcases s with ⟨sh, sc, scl, ⟨ch, cbs, ccr, cci, crn, cct⟩, sb, srns, sl, srn, shu⟩
  cases k with
  | cdAddA | cdAddB | cdAddC =>
    simp only [Gen.R.handlerOf, handlerName, String.reduceEq, ↓reduceIte, Gen.R.parseCheckDetailAddendumA, Gen.R.parseCheckDetailAddendumB, Gen.R.parseCheckDetailAddendumC,
      rstep, hk, ibm_eq]
    generalize parseValidate m _ _ _ _ = x, hasChecks _ = g
    cases g <;> cases x <;> rfl
  | rdAddA | rdAddB | rdAddC | rdAddD =>
    simp only [Gen.R.handlerOf, handlerName, String.reduceEq, ↓reduceIte, Gen.R.parseReturnDetailAddendumA, Gen.R.parseReturnDetailAddendumB, Gen.R.parseReturnDetailAddendumC,
      Gen.R.parseReturnDetailAddendumD, rstep, hk]
    generalize parseValidate m _ _ _ _ = x, hasReturns _ = g
    cases g <;> cases x <;> rfl
  | ivDetail | ivData | ivAnalysis =>
    simp only [Gen.R.handlerOf, handlerName, String.reduceEq, ↓reduceIte, Gen.R.parseImageViewDetail, Gen.R.parseImageViewData, Gen.R.parseImageViewAnalysis, rstep, hk]
    generalize parseValidate m _ _ _ _ = x, hasChecks _ = g, hasReturns _ = g'
    cases g <;> cases g' <;> cases x <;> rfl
  | cashLetterHeader | credit | creditItem | rns =>
    simp only [Gen.R.handlerOf, handlerName, String.reduceEq, ↓reduceIte, Gen.R.parseCashLetterHeader, Gen.R.parseCredit, Gen.R.parseCreditItem, Gen.R.parseRoutingNumberSummary,
      rstep, hk]
    generalize parseValidate m _ _ _ _ = x
    cases ch <;> cases x <;> rfl
  | bundleHeader =>
    simp only [Gen.R.handlerOf, handlerName, String.reduceEq, ↓reduceIte, Gen.R.parseBundleHeader, rstep, hk]
    generalize parseValidate m _ _ _ _ = x
    rcases sb with _ | ⟨_ | bh, ck, rt, bc⟩ <;> cases ch <;> cases x <;> rfl
  | checkDetail =>
    simp only [Gen.R.handlerOf, handlerName, String.reduceEq, ↓reduceIte, Gen.R.parseCheckDetail, rstep, hk]
    generalize parseValidate m _ _ _ _ = x
    rcases sb with _ | ⟨_ | bh, ck, _ | ⟨r, rs⟩, bc⟩ <;> cases x <;> rfl
  | returnDetail =>
    simp only [Gen.R.handlerOf, handlerName, String.reduceEq, ↓reduceIte, Gen.R.parseReturnDetail, rstep, hk]
    generalize parseValidate m _ _ _ _ = x
    rcases sb with _ | ⟨_ | bh, _ | ⟨c, cs⟩, rt, bc⟩ <;> cases x <;> rfl
  | fileHeader =>
    simp only [Gen.R.handlerOf, handlerName, String.reduceEq, ↓reduceIte, Gen.R.parseFileHeader, rstep, hk, parseValidate]
    generalize RecLayout.parseRec _ _ _ _ _ = p
    cases p with
    | panic => rfl
    | done v =>
      simp only []
      generalize m.validateK _ v = r
      rcases r with ⟨_ | f, v'⟩ <;> rfl
  | fileControl =>
    simp only [Gen.R.handlerOf, handlerName, String.reduceEq, ↓reduceIte, Gen.R.parseFileControl, ReaderRT.controlSet, rstep, hk, parseValidate]
    generalize RecLayout.parseRec _ _ _ _ _ = p
    by_cases hb : (!(sc.s "recordType").isEmpty) = true <;> simp only [hb] <;> cases ch <;> cases p <;> first | rfl | skip
    all_goals
      simp only []
      generalize m.validateK _ _ = r
      rcases r with ⟨_ | f, v'⟩ <;> rfl
  | bundleControl =>
    simp only [Gen.R.handlerOf, handlerName, String.reduceEq, ↓reduceIte, Gen.R.parseBundleControl, ReaderRT.bundleControl, rstep, hk]
    rcases sb with _ | ⟨bh, bck, br, _ | c0⟩ <;> simp only [Option.bind_some, Option.bind_none] <;> first | rfl | skip
    generalize parseValidate m _ _ _ _ = x
    cases x with
    | error f => rfl
    | ok v =>
      simp only [bind, Except.bind, ReaderRT.set_bundleControl, ReaderRT.validateCurBundle, Option.map_some, Option.bind_some]
      generalize bundleValidate _ = bv
      cases bv <;> rfl
  | cashLetterControl =>
    simp only [Gen.R.handlerOf, handlerName, String.reduceEq, ↓reduceIte, Gen.R.parseCashLetterControl, ReaderRT.bundleHeader, rstep, hk]
    rcases sb with _ | ⟨_ | bh, bck, br, bc⟩ <;> cases ch <;> cases cct <;> simp only [Option.bind_some, Option.bind_none] <;>
      first | rfl | skip
    all_goals
      generalize parseValidate m _ _ _ _ = x
      cases x with
      | error f => rfl
      | ok v =>
        simp only [bind, Except.bind, ReaderRT.set_cashLetterControl]
        rename_i hd c0
        obtain ⟨cv, hcv⟩ : ∃ cv, cashLetterValidate m ⟨some hd, cbs, ccr, cci, crn, some v⟩ = cv := ⟨_, rfl⟩
        simp only [hcv]
        rcases cv with _ | ⟨cls, f⟩ <;> rfl

theorem tagged_length {k : Kind} {t : Bytes} (h : t = k.tag ∨ t = ebcTag k.tag) : t.length = 2 := by
  rcases h with rfl | rfl
  · exact C01.tag_length k
  · rw [ebcTag, List.length_map, C01.tag_length]

theorem find?_perm {κ : Type} (p : κ → Bool) {order ks : List κ} (hp : order.Perm ks)
    (hr : ∀ k, p k = true → ks.find? p = some k) : order.find? p = ks.find? p := by
  cases ho : order.find? p with
  | some k => exact (hr k (List.find?_some ho)).symm
  | none => exact (List.find?_eq_none.mpr fun k hk => List.find?_eq_none.mp ho k (hp.mem_iff.mpr hk)).symm

/-- the kinds in the order of the cases of `parseLine` -/
def switchOrder : List Kind :=
  [.fileHeader, .cashLetterHeader, .bundleHeader, .checkDetail, .cdAddA, .cdAddB, .cdAddC, .ivDetail, .ivData, .ivAnalysis,
   .returnDetail, .rdAddA, .rdAddB, .rdAddC, .rdAddD, .credit, .creditItem, .bundleControl, .rns, .cashLetterControl, .fileControl]

theorem dispatch_eq : Gen.R.dispatch = switchOrder.map fun k => ([k.tag, ebcTag k.tag], handlerName k) := rfl

/-- **the switch of `parseLine` selects by the same two bytes as the model**: for every two-byte prefix the case the
translated switch takes calls the handler of the kind the model assigns to the line (and no case when the model assigns none) -/
theorem dispatch_kind (T : Bytes) :
    (Gen.R.dispatch.find? (fun c => c.1.any (fun t => T == t))).map (·.2) =
    (Kind.all.find? (fun k => T == k.tag || T == ebcTag k.tag)).map handlerName := by
  have hp : switchOrder.Perm Kind.all := by decide
  rw [dispatch_eq, List.find?_map, Option.map_map,
    ← find?_perm _ hp fun k h => C01.find_kind_of_tag (by simpa only [Bool.or_eq_true, beq_iff_eq] using h)]
  simp only [Function.comp_def, List.any_cons, List.any_nil, Bool.or_false]

/-- every statement of `parseLine` and of the handlers had a recognised shape -/
theorem reader_recognised : Gen.R.recognised = true := by decide


/-- **`Reader.parseLine` as translated from reader.go is the reader model's step**: for every reader state and every
line, the same next state, or the same error with the same partial file -/
theorem step_eq (m : Model) (e : Enc) (s : RState) (line : Bytes) :
    obs (Gen.R.step m e s line) = obs (rstep m e s line) := by
  have h1 : Gen.R.step m e s line = match (kindOfLine line).map handlerName with
      | some n => Gen.R.handlerOf n m e s line
      | none => .error (s, s.err .file "recordType") := by
    rw [kindOfLine, ← dispatch_kind, Gen.R.step]
    cases Gen.R.dispatch.find? (fun c => c.1.any (fun t => line.take 2 == t)) <;> rfl
  rw [h1]
  cases hk : kindOfLine line with
  | none => unfold rstep; simp only [hk]; rfl
  | some k =>
    exact handlerFor_eq m e s line k hk


/-- the loop of `Reader.Read` over already split lines, with the translated `parseLine` as its step -/
def readLinesT (m : Model) (e : Enc) : List Bytes → RState → RState × Option RErr
  | [], s => (s, none)
  | l :: r, s =>
    let s := { s with lineNum := s.lineNum + 1 }
    if l.length < minLen m e l then (s, some (s.err .file "RecordLength"))
    else match Gen.R.step m e s l with
      | .ok s' => readLinesT m e r s'
      | .error (s', er) => (s', some { er with line := s.lineNum })

/-- what `Read` returns of a run of the loop: the state when every line was accepted, else the partial file and the error -/
def obsL (r : RState × Option RErr) : Except (File Vals × RErr) RState :=
  match r.2 with
  | none => .ok r.1
  | some x => .error (r.1.file, x)

/-- **the record loop over the translated handlers returns what the model's loop returns**, for every sequence of
lines and every starting state -/
theorem readLinesT_eq (m : Model) (e : Enc) : ∀ (ls : List Bytes) (s : RState),
    obsL (readLinesT m e ls s) = obsL (readLines m e ls s) := by
  intro ls
  induction ls with
  | nil => intro s; rfl
  | cons l r ih =>
    intro s
    unfold readLinesT readLines
    simp only []
    by_cases hlen : l.length < minLen m e l
    · simp only [hlen, if_true]
    · simp only [hlen, if_false]
      rcases obs_cases (step_eq m e { s with lineNum := s.lineNum + 1 } l) with ⟨s1, hg, hr⟩ | ⟨s1, s2, er, hg, hr, hf⟩
      · rw [hg, hr]; exact ih s1
      · rw [hg, hr]; simp only [obsL, hf]

theorem utf8Encode_pos (r : Nat) : 1 ≤ (utf8Encode r).length := by
  fun_cases utf8Encode r <;> exact Nat.le_add_left 1 _

theorem decode_length_ge (cm : Charmap) : ∀ (x : Bytes), x.length ≤ (cm.decode x).length := by
  intro x
  unfold Charmap.decode
  induction x with
  | nil => simp
  | cons b r ih =>
    simp only [List.flatMap_cons, List.length_append, List.length_cons]
    have := utf8Encode_pos (cm.dec.getD b.toNat 0xFFFD)
    omega

theorem forWidths_eq (dec : Bytes → Bytes) (l : Bytes) (ws : List Nat) (stop : Nat) :
    (match ReaderRT.forWidths ws stop (fun width end_ =>
        if l.length < (end_ + width) then Sum.inl (end_ + width) else
        let field := dec ((l.drop end_).take ((end_ + width) - end_))
        let n : Int := parseNum field
        if n < 0 then Sum.inl (l.length + 1) else
        let end_ : Nat := end_ + (width + n.toNat)
        Sum.inr end_) with
      | Sum.inl r => r
      | Sum.inr end_ => end_) = ivMinLen dec l stop ws := by
  fun_induction ivMinLen dec l stop ws with
  | case1 => rfl
  | case2 stop w ws h => simp only [ReaderRT.forWidths, h, if_true]
  | case3 stop w ws h n hn =>
    simp only [n] at hn
    simp only [ReaderRT.forWidths, h, hn, if_false, if_true, Nat.add_sub_cancel_left]
  | case4 stop w ws h n hn ih =>
    simp only [n, Nat.add_sub_cancel_left, Nat.add_assoc] at hn ih
    simp only [ReaderRT.forWidths, h, hn, if_false, Nat.add_sub_cancel_left, n, Nat.add_assoc]
    exact ih

theorem kindOfLine_short (l : Bytes) (h : l.length < 2) : kindOfLine l = none := by
  rw [kindOfLine, List.find?_eq_none]
  intro k _ hk
  have := tagged_length (k := k) (t := l.take 2) (by simpa only [Bool.or_eq_true, beq_iff_eq] using hk)
  rw [List.length_take] at this
  omega

theorem keyed_head (m : Model) (e : Enc) (l : Bytes) (X : Nat) :
    (if l.length < 22 then 46 else
      if ((if e.ebcdic = true then m.cm.decode else id) (l.take 22)).length < 22 then 46 else X) =
      if l.length < 22 then 46 else X := by
  split
  · rfl
  · have h22 : (l.take 22).length = 22 := by rw [List.length_take]; omega
    rw [if_neg]
    cases e.ebcdic
    · simp only [Bool.false_eq_true, if_false, id, h22]; omega
    · have := decode_length_ge m.cm (l.take 22)
      simp only [if_true]; omega

theorem contains_tags (l : Bytes) (ks : List Kind) :
    (ks.flatMap fun k => [k.tag, ebcTag k.tag]).contains (l.take 2) = (kindOfLine l).any (ks.contains ·) := by
  rw [Bool.eq_iff_iff, List.contains_iff_mem, List.mem_flatMap, Option.any_eq_true]
  constructor
  · rintro ⟨k, hk, ht⟩
    exact ⟨k, C01.find_kind_of_tag (by simpa only [List.mem_cons, List.not_mem_nil, or_false] using ht),
      List.contains_iff_mem.mpr hk⟩
  · rintro ⟨k, hk, hc⟩
    exact ⟨k, List.contains_iff_mem.mp hc, by
      simpa only [List.mem_cons, List.not_mem_nil, or_false, Bool.or_eq_true, beq_iff_eq] using List.find?_some hk⟩

/-- **`Reader.minRecordLength` (with `minImageViewDataLength`) as translated from reader.go is the model's `minLen`** -/
theorem minRecordLength_eq (m : Model) (e : Enc) (l : Bytes) : Gen.R.minRecordLength m e l = minLen m e l := by
  unfold Gen.R.minRecordLength minLen Gen.R.minImageViewDataLength
  by_cases hs : l.length < 2
  · simp only [hs, if_true, kindOfLine_short l hs]
  · -- the two label lists of the Go code are the codes of kinds 27, 34 and of kind 52
    have c1 : [[0x32, 0x37], [0xF2, 0xF7], [0x33, 0x34], [0xF3, 0xF4]].contains (l.take 2) = _ :=
      contains_tags l [.cdAddB, .rdAddC]
    have c2 : [[0x35, 0x32], [0xF5, 0xF2]].contains (l.take 2) = _ := contains_tags l [.ivData]
    simp only [hs, if_false, c1, c2, keyed_head]
    cases kindOfLine l with
    | none => rfl
    | some k =>
      cases k
      case ivData => exact congrArg (fun X => if l.length < 80 then 80 else X) (forWidths_eq _ l [4, 5, 7] 101)
      all_goals rfl

/-- the scan loop of `Reader.Read` as translated: `readBody` for every line until one is refused -/
def readLinesB (m : Model) (e : Enc) : List Bytes → RState → RState × Option RErr
  | [], s => (s, none)
  | l :: r, s =>
    match Gen.R.readBody m e s l with
    | .ok s' => readLinesB m e r s'
    | .error (s', er) => (s', some er)

/-- **the scan loop of `Reader.Read` as translated from reader.go returns what the model's loop returns** (with `minRecordLength_eq` for the length check) -/
theorem readLinesB_eq (m : Model) (e : Enc) : ∀ (ls : List Bytes) (s : RState),
    obsL (readLinesB m e ls s) = obsL (readLines m e ls s) := by
  intro ls
  induction ls with
  | nil => intro s; rfl
  | cons l r ih =>
    intro s
    unfold readLinesB readLines Gen.R.readBody
    simp only [minRecordLength_eq]
    by_cases hlen : l.length < minLen m e l
    · simp only [hlen, if_true]
    · simp only [hlen, if_false]
      rcases obs_cases (step_eq m e { s with lineNum := s.lineNum + 1 } l) with ⟨s1, hg, hr⟩ | ⟨s1, s2, er, hg, hr, hf⟩
      · rw [hg, hr]; exact ih s1
      · rw [hg, hr]
        -- the model stamps the line number on the error; the step had stamped the same
        have hline : er.line = s.lineNum + 1 := (C01.rstep_error m e _ s2 l er hr).2
        cases er
        simp only [obsL, hf, ← hline]

/-- **the checks `Reader.Read` makes behind the scan loop, as translated, are the model's** -/
theorem readFinish_eq (s : RState) (scanErr : Bool) :
    Gen.R.readFinish s scanErr =
      (if scanErr then some { wrapped := true, line := s.lineNum, record := s.recordName, cls := .file, field := "LineNumber" }
       else if s.headerUntouched then some { wrapped := true, line := s.lineNum, record := "FileHeader", cls := .file, field := "" }
       else if (s.control.s "recordType").isEmpty then some { wrapped := true, line := s.lineNum, record := "FileControl", cls := .file, field := "" }
       else if s.cur.header.isSome then some { wrapped := true, line := s.lineNum, record := "CashLetterControl", cls := .file, field := "" }
       else none) := by
  unfold Gen.R.readFinish ReaderRT.controlSet RState.err
  cases scanErr <;> cases s.headerUntouched <;> cases (s.control.s "recordType").isEmpty <;> cases s.cur.header.isSome <;> rfl

end Icl.ReaderEq
