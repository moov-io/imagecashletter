/-
C09 — what the library accepts for writing, its own reader accepts back.

Walk completeness, proved on the build model (tied to the code by the build-verdict correspondence
on the full record × field × invalid-class matrix, and by `build_eq_model` / `create_eq_model`, Props/C06Build.lean /
C06Create.lean: `Bundle.build` / `File.Create` as translated from the source are the model's, and
`bundleValidate_eq_model` / `cashLetterValidate_eq_model` / `fileValidate_eq_model`, Props/C09Validate.lean: so are
the container checks of bundle and cash letter, and the file's accepts exactly when the model's does): a
successful Bundle.build / File.Create has run the record validator — the SAME rule tree the reader runs after parsing — on the bundle header, on
every check and return item, on each of their addenda and image views, on the rebuilt control, on
the cash letter header, credits, credit items and routing number summaries.  A record kind that the
walk forgets makes the corresponding theorem unprovable.  The second half of the property (valid records, once
written, parse back to valid records) is the C01 round trip; end to end the matrix is run against
the real Create / FileFromJSON / Writer / Reader.
-/
import IclModel.Lemmas.MapE
import IclModel.Lemmas.BuildRT
namespace Icl.C09
open Icl Icl.BuildRT

def CheckValid (m : Model) (cd : Item Vals) : Prop :=
  vErr m .checkDetail cd.detail = none ∧
  (∀ a ∈ cd.addA, vErr m .cdAddA a = none) ∧ (∀ a ∈ cd.addB, vErr m .cdAddB a = none) ∧
  (∀ a ∈ cd.addC, vErr m .cdAddC a = none) ∧ (∀ a ∈ cd.ivDetail, vErr m .ivDetail a = none) ∧
  (∀ a ∈ cd.ivData, vErr m .ivData a = none) ∧ (∀ a ∈ cd.ivAnalysis, vErr m .ivAnalysis a = none)

def ReturnValid (m : Model) (rd : Item Vals) : Prop :=
  vErr m .returnDetail rd.detail = none ∧
  (∀ a ∈ rd.addA, vErr m .rdAddA a = none) ∧ (∀ a ∈ rd.addB, vErr m .rdAddB a = none) ∧
  (∀ a ∈ rd.addC, vErr m .rdAddC a = none) ∧ (∀ a ∈ rd.addD, vErr m .rdAddD a = none) ∧
  (∀ a ∈ rd.ivDetail, vErr m .ivDetail a = none) ∧
  (∀ a ∈ rd.ivData, vErr m .ivData a = none) ∧ (∀ a ∈ rd.ivAnalysis, vErr m .ivAnalysis a = none)

theorem validateCheck_none (m : Model) (cd : Item Vals) (h : validateCheck m cd = none) : CheckValid m cd := by
  simp only [validateCheck, validateForwardItems, Option.or_eq_none_iff, firstErr_none] at h
  exact h

theorem validateReturn_none (m : Model) (rd : Item Vals) (h : validateReturn m rd = none) : ReturnValid m rd := by
  simp only [validateReturn, validateReturnItems, Option.or_eq_none_iff, firstErr_none] at h
  exact h

/-- **a built bundle holds only valid records**: header, every item with all its addenda and image
views, and the control record that will be written -/
theorem bundle_walk_complete (m : Model) (b b' : Bundle Vals) (h : bundleBuild m b = .ok b') :
    (∀ hd, b.header = some hd → vErr m .bundleHeader hd = none) ∧
    (∀ cd ∈ b'.checks, CheckValid m cd) ∧ (∀ rd ∈ b'.returns, ReturnValid m rd) ∧
    (∀ c, b'.control = some c → vErr m .bundleControl c = none) := by
  obtain ⟨hhdr, hc, hr, hctl, hb⟩ := bundleBuild_inv m b b' h
  subst hb
  rw [firstErr_none] at hc hr
  refine ⟨hhdr, fun cd hcd => validateCheck_none m cd (hc cd hcd), fun rd hrd => validateReturn_none m rd (hr rd hrd), ?_⟩
  intro c hc
  simp only [Option.some.injEq] at hc
  subst hc; exact hctl

def BundleValid (m : Model) (b : Bundle Vals) : Prop :=
  (∀ hd, b.header = some hd → vErr m .bundleHeader hd = none) ∧
  (∀ cd ∈ b.checks, CheckValid m cd) ∧ (∀ rd ∈ b.returns, ReturnValid m rd) ∧
  (∀ c, b.control = some c → vErr m .bundleControl c = none)

theorem fileBundles_valid (m : Model) : ∀ (bs bs' : List (Bundle Vals)), fileBundles m bs = .ok bs' →
    ∀ b' ∈ bs', BundleValid m b' := by
  intro bs bs' h
  rw [CreateEq.fileBundles_eq] at h
  refine CreateEq.mapE_forall _ _ (fun b b' hb => ?_) bs bs' h
  have hb := (CreateEq.gB_ok m b b' hb).2
  have hw := bundle_walk_complete m b b' hb
  exact ⟨fun hd hh => hw.1 hd (by rw [bundleBuild_ok m b b' hb] at hh; exact hh), hw.2⟩

/-- every record a cash letter holds below its control record is valid, and the cash letter passes the
container validation the reader runs at its control record (which validates the control record) -/
def CashLetterValid (m : Model) (cl : CashLetter Vals) : Prop :=
  (∀ hd, cl.header = some hd → vErr m .cashLetterHeader hd = none) ∧
  (∀ v ∈ cl.creditItems, vErr m .creditItem v = none) ∧ (∀ v ∈ cl.credits, vErr m .credit v = none) ∧
  (∀ r ∈ cl.rns, ∃ v, r = some v ∧ vErr m .rns v = none) ∧
  (∀ b ∈ cl.bundles, BundleValid m b)

theorem fileCashLetters_valid (m : Model) : ∀ (cls cls' : List (CashLetter Vals)), fileCashLetters m cls = .ok cls' →
    ∀ cl' ∈ cls', CashLetterValid m cl' := by
  intro cls cls' h
  rw [CreateEq.fileCashLetters_eq] at h
  refine CreateEq.mapE_forall _ _ (fun cl cl' hcl => ?_) cls cls' h
  obtain ⟨hv, bs, hbs, rfl⟩ := CreateEq.gCL_ok m cl cl' hcl
  simp only [CreateEq.clErr, Option.or_eq_none_iff, firstErr_none] at hv
  refine ⟨?_, hv.2.2.1, hv.2.2.2.1, ?_, fileBundles_valid m cl.bundles bs hbs⟩
  · intro hd hh
    have hh' : cl.header = some hd := hh
    have := hv.2.1
    rw [hh'] at this
    exact this
  · intro r hr
    have := hv.2.2.2.2 r hr
    cases r with
    | none => simp at this
    | some v => exact ⟨v, rfl, this⟩

/-- **a created file holds only valid records** (file control excepted: its members are computed, and
the two caller-supplied ones are checked by File.Create itself): the file header, and in every cash
letter the header, credit items, credits, routing number summaries and every bundle with all its items,
addenda, image views and its rebuilt control -/
theorem file_walk_complete (m : Model) (f f' : File Vals) (h : fileCreate m f = .ok f') :
    vErr m .fileHeader f'.header = none ∧ ∀ cl ∈ f'.cashLetters, CashLetterValid m cl := by
  obtain ⟨cls, hh, _, hcls, _, _, hf⟩ := fileCreate_inv m f f' h
  subst hf
  exact ⟨hh, fileCashLetters_valid m f.cashLetters cls hcls⟩

end Icl.C09
