/-
`Bundle.Validate` and the two addendum-count walks it calls (bundle.go) are TRANSLATED statement by statement into
Lean (Gen/ValidateT.lean, regenerated on every run).  Theorem `bundleValidate_eq_model`: for every bundle the
translation returns what `bundleValidate` (Tree.lean - the container check the reader runs at a bundle control record
and the builds run before `Bundle.build`) returns: the same verdict and the same error member.
-/
import IclModel.Gen.ValidateT
import IclModel.Lemmas.BuildRT
namespace Icl.ValidateEq
open Icl Icl.BuildRT

/-- every statement of the translated methods had a recognised shape -/
theorem validate_recognised : Gen.V.recognised = true := by decide

/-- **`Bundle.Validate` as translated from bundle.go is the model's container check**, for every bundle -/
theorem bundleValidate_eq_model (b : Bundle Vals) : Gen.V.Validate b = bundleValidate b := by
  unfold Gen.V.Validate Gen.V.checkDetailAddendumCount Gen.V.returnDetailAddendumCount bundleValidate
  simp only [len_le_zero, len_gt_zero]
  -- the addendum-count walks test the same conditions: move the casts of the translation inside, then the functions coincide
  simp only [decide_eq_true_eq, ← Int.natCast_add, ← Int.cast_ofNat_Int, gt_iff_lt, Int.ofNat_lt]
  cases b.checks.isEmpty <;> cases b.returns.isEmpty <;> simp <;>
    (first | rfl | (cases List.findSome? _ _ <;> rfl))

theorem ite_and {α : Type} (r nb : Bool) (a x : α) :
    (if r then (if nb then a else x) else x) = if (r && nb) then a else x := by cases r <;> cases nb <;> rfl

theorem ite_skip {α : Type} (c nn : Bool) (t e : α) :
    (if c then t else if nn then e else t) = if (!c && nn) then e else t := by cases c <;> cases nn <;> rfl

/-- **`CashLetter.Validate` as translated from cashLetter.go is the model's container check**, for every cash letter -/
theorem cashLetterValidate_eq_model (m : Model) (cl : CashLetter Vals) :
    Gen.V.cashLetterValidate m cl = cashLetterValidate m cl := by
  unfold Gen.V.cashLetterValidate cashLetterValidate
  cases hh : cl.header with
  | none => rfl
  | some h =>
    -- the translation repeats the rest of the method in each branch of its two nested tests; the model joins the tests
    simp only [Option.isNone_some, Bool.false_eq_true, if_false, Option.map_some, Option.getD_some, ite_skip, ite_and]
    split
    · rfl
    · split
      · rfl
      · cases cl.control with
        | none => rfl
        | some c =>
          simp only [Option.isNone_some, Bool.false_eq_true, if_false, BuildRT.vOpt, vErr]
          cases hv : m.validateK Kind.cashLetterControl c with
          | mk o v' => cases o <;> rfl

/-- the loop of `CashLetterIDUnique`: the state it carries (error found, ID of the last cash letter with a header) -/
def idStep (st : Option String × Bytes) (cl : CashLetter Vals) : Option String × Bytes :=
  match st.1 with
  | some _ => st
  | none =>
    let cashLetterID := st.2
    if cl.header.isNone then st else
    if (cashLetterID == (((cl.header).map (·.s "CashLetterID")).getD [])) then (some "CashLetterID", cashLetterID) else
    let cashLetterID := (((cl.header).map (·.s "CashLetterID")).getD [])
    (none, cashLetterID)

theorem idLoop_eq (l : List (CashLetter Vals)) : ∀ st : Option String × Bytes,
    ((l.foldl idStep st).1.isNone) =
      (st.1.isNone && cashLetterIDUnique.go st.2 (l.map (fun cl => cl.header.map (fun h => h.s "CashLetterID")))) := by
  induction l with
  | nil => intro st; simp only [List.foldl_nil, List.map_nil, cashLetterIDUnique.go, Bool.and_true]
  | cons x r ih =>
    intro st
    rw [List.foldl_cons, ih]
    obtain ⟨e, prev⟩ := st
    cases e with
    | some e => rfl
    | none =>
      cases hh : x.header with
      | none => simp only [idStep, hh, Option.isNone_none, if_true, List.map_cons, Option.map_none, cashLetterIDUnique.go]
      | some h =>
        simp only [idStep, hh, Option.isNone_some, Bool.false_eq_true, if_false, Option.map_some, Option.getD_some, List.map_cons,
          cashLetterIDUnique.go]
        cases prev == h.s "CashLetterID" <;> rfl

/-- **`File.Validate` (`CashLetterIDUnique`) as translated from file.go is the model's `fileValidate`**: the translation
returns no error exactly when the model accepts -/
theorem fileValidate_eq_model (f : File Vals) : (Gen.V.fileValidate f).isNone = fileValidate f := by
  unfold Gen.V.fileValidate Gen.V.CashLetterIDUnique fileValidate cashLetterIDUnique
  cases hl : f.cashLetters with
  | nil => rfl
  | cons x r =>
    have hne : decide ((((x :: r).length : Nat) : Int) = (0 : Int)) = false := by
      simp only [List.length_cons, decide_eq_false_iff_not]; omega
    simp only [hne, Bool.false_eq_true, if_false, List.map_cons, List.isEmpty_cons, Bool.not_false, Bool.true_and]
    have := idLoop_eq (x :: r) (none, [])
    simp only [List.map_cons, Option.isNone_none, Bool.true_and] at this
    show (match (match (List.foldl idStep (none, []) (x :: r)).1 with | some e => some e | none => none) with
      | some e => some e | none => none).isNone = _
    rw [← this]
    generalize (List.foldl idStep (none, []) (x :: r)).1 = o
    cases o <;> rfl

end Icl.ValidateEq
