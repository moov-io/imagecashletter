/-
C13 - bad requests get a 4xx JSON error and leave the store untouched.

`Bad s r`: the library rejects the uploaded payload under the decoder the handler selects (or the
content type selects none), the body of a header / cash-letter request does not decode, an identifier
is empty, or the addressed file is not in the store.  On the handler model such a request returns the
store unchanged and answers 404 or 400 - 404 exactly when the only thing wrong is the unknown file.
The "dropped connection / hang" part of the statement is a property of the Go runtime around a
panicking or looping library call: on this level it is the assumption that `Upload` is total (C05).
-/
import IclModel.Lemmas.Api
namespace Icl.Api

def Bad (s : Store) : Req → Prop
  | .list => False
  | .createV1 ct u _ => v1Parsed ct u = none
  | .createV2 ct u _ _ => v2Parsed ct u = none
  | .get id | .delete id | .contents id | .validate id => id = "" ∨ getFile s id = none
  | .updateHeader id h => id = "" ∨ h = none ∨ getFile s id = none
  | .addCL id c => id = "" ∨ c = none ∨ getFile s id = none
  | .removeCL id cid => id = "" ∨ cid = "" ∨ getFile s id = none

theorem C13_bad (s : Store) (r : Req) (h : Bad s r) :
    (step s r).1 = s ∧ ((step s r).2 = .notFound ∨ (step s r).2 = .bad) := by
  cases r with
  | list => exact h.elim
  | createV1 ct u fresh => rw [step_createV1]; simp [Spec.step, show v1Parsed ct u = none from h]
  | createV2 ct u fresh acc => rw [step_createV2]; simp [Spec.step, show v2Parsed ct u = none from h]
  | get id => rw [step_get]; exact ⟨rfl, .inl (read_none s id _ h)⟩
  | contents id => rw [step_contents]; exact ⟨rfl, .inl (read_none s id _ h)⟩
  | validate id => rw [step_validate]; exact ⟨rfl, .inl (read_none s id _ h)⟩
  | delete id =>
    rw [step_delete]
    split
    · exact ⟨rfl, .inl rfl⟩
    · rw [show getFile s id = none from h.resolve_left ‹_›]; exact ⟨rfl, .inl rfl⟩
  | updateHeader id hd =>
    rw [step_updateHeader]
    split
    · exact ⟨rfl, .inl rfl⟩
    · cases hd with
      | none => exact ⟨rfl, .inr rfl⟩
      | some hv => dsimp only; rw [rmw_none _ _ _ _ ((h.resolve_left ‹_›).resolve_left nofun)]; exact ⟨rfl, .inl rfl⟩
  | addCL id cl =>
    rw [step_addCL]
    split
    · exact ⟨rfl, .inl rfl⟩
    · cases cl with
      | none => exact ⟨rfl, .inr rfl⟩
      | some c => dsimp only; rw [rmw_none _ _ _ _ ((h.resolve_left ‹_›).resolve_left nofun)]; exact ⟨rfl, .inl rfl⟩
  | removeCL id cid =>
    rw [step_removeCL]
    split
    · exact ⟨rfl, .inl rfl⟩
    · rename_i hn
      rw [rmw_none _ _ _ _ ((h.resolve_left fun e => hn (.inl e)).resolve_left fun e => hn (.inr e))]
      exact ⟨rfl, .inl rfl⟩

/-- 404 exactly for the unknown (or empty) file when nothing else is wrong; 400 for a rejected body -/
theorem C13_status (s : Store) (id : String) (hn : getFile s id = none) :
    (step s (.get id)).2 = .notFound ∧ (step s (.delete id)).2 = .notFound ∧
    (step s (.contents id)).2 = .notFound ∧ (step s (.validate id)).2 = .notFound ∧
    (∀ hv, (step s (.updateHeader id (some hv))).2 = .notFound) ∧
    (∀ c, (step s (.addCL id (some c))).2 = .notFound) ∧
    (∀ cid, (step s (.removeCL id cid)).2 = .notFound) ∧
    (∀ ct u fr, v1Parsed ct u = none → (step s (.createV1 ct u fr)).2 = .bad) ∧
    (∀ ct u fr a, v2Parsed ct u = none → (step s (.createV2 ct u fr a)).2 = .bad) := by
  refine ⟨?_, ?_, ?_, ?_, fun hv => ?_, fun c => ?_, fun cid => ?_, fun ct u fr h => ?_, fun ct u fr a h => ?_⟩
  · rw [step_get]; exact read_none s id _ (.inr hn)
  · rw [step_delete, hn]; split <;> rfl
  · rw [step_contents]; exact read_none s id _ (.inr hn)
  · rw [step_validate]; exact read_none s id _ (.inr hn)
  · rw [step_updateHeader]; dsimp only; rw [rmw_none _ _ _ _ hn]; split <;> rfl
  · rw [step_addCL]; dsimp only; rw [rmw_none _ _ _ _ hn]; split <;> rfl
  · rw [step_removeCL, rmw_none _ _ _ _ hn]; split <;> rfl
  · rw [step_createV1]; simp only [Spec.step, h]
  · rw [step_createV2]; simp only [Spec.step, h]

/-- a bad request anywhere in a history leaves every later response what it would have been -/
theorem C13_no_trace (s : Store) (r : Req) (h : Bad s r) (post : List Req) :
    (runHistory (step s r).1 post).2 = (runHistory s post).2 := by
  rw [(C13_bad s r h).1]

/-- non-vacuity: each kind of badness occurs -/
example : Bad [] (.get "x") ∧ Bad [] (.createV2 .other default "g" .other) ∧
    Bad [("a", ⟨"a", 1, [], 2⟩)] (.updateHeader "a" none) ∧ Bad [("a", ⟨"a", 1, [], 2⟩)] (.removeCL "a" "") := by
  simp [Bad, getFile, v2Parsed]

end Icl.Api
