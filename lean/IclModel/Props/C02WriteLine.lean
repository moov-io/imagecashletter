/-
`Writer.writeLine` of writer.go is TRANSLATED statement by statement into Lean (Gen/WriteLineT.lean, regenerated on
every run): the length prefix computed from `len(record.String())`, its range guard, the per-encoding body (for
record 52 under EBCDIC: the transliterated `toString(false)` followed by the image bytes) and the newline.  Theorem
`writeLine_eq_model`: for every encoding, record kind and record it returns what the model's `writeLine`
(Tree.lean - the function the framing theorems of C01 / C02 / C08 speak about) returns.
-/
import IclModel.Gen.WriteLineT
namespace Icl.WriteLineEq
open Icl

theorem validSize_nonneg (n : Nat) : (decide (((n : Nat) : Int) < 0) || !validSizeInt (n : Int)) = !validSizeInt (n : Int) := by
  have : ¬ (((n : Nat) : Int) < 0) := by omega
  simp [this]

/-- every statement of the translated method had a recognised shape -/
theorem writeLine_recognised : Gen.WL.recognised = true := by decide

/-- **`Writer.writeLine` as translated from writer.go is the model's `writeLine`** -/
theorem writeLine_eq_model (m : Model) (e : Enc) (k : Kind) (r : Option Vals) :
    Gen.WL.writeLine m e k r = writeLine m e k r := by
  unfold Gen.WL.writeLine writeLine bodyOf
  simp only [validSize_nonneg, List.nil_append, Int.toNat_natCast]
  cases hlp : e.lp <;> cases heb : e.ebcdic <;> simp
  -- `split` follows the translated `match k, r`: record 52 with a value, or any other pair
  · split <;> (first | rfl | (cases h : m.cm.encode _ <;> simp_all))
  · cases validSizeInt _ <;> simp
  · cases validSizeInt _ <;> simp
    split <;> (first | rfl | (cases h : m.cm.encode _ <;> simp_all))

end Icl.WriteLineEq
