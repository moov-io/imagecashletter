/-
C06 — built control records equal an independent recount of the file.

Theorems about the model build (Build.lean: Bundle.build / CashLetter.build / File.Create transcribed;
tied to the code by the `build` correspondence stream on generated trees, and by `build_eq_model`
(Props/C06Build.lean), `clbuild_eq_model` (Props/C07Build.lean), `create_eq_model` (Props/C06Create.lean): the
three methods as translated from the source are the model's functions):
  * `bundle_control_recount`, `cashLetter_control_recount`, `file_control_recount`: every total in the
    control record produced by a successful build is the corresponding sum over the content;
  * `total_record_count_is_written`: the file control's TotalRecordCount equals the number of records
    the writer walk emits (`File.flatten`), for every file the writer accepts — the statement that
    a record kind the writer emits but the counter forgets cannot satisfy.
-/
import IclModel.Lemmas.Count
import IclModel.Lemmas.NumberIdem
namespace Icl.C06
open Icl

@[simp] theorem setI_i (v : Vals) (k k' : String) (x : Int) : (v.setI k x).i k' = if k' = k then x else v.i k' := rfl
@[simp] theorem setS_i (v : Vals) (k k' : String) (x : Bytes) : (v.setS k x).i k' = v.i k' := rfl
@[simp] theorem setS_s (v : Vals) (k k' : String) (x : Bytes) : (v.setS k x).s k' = if k' = k then x else v.s k' := rfl
@[simp] theorem setI_s (v : Vals) (k k' : String) (x : Int) : (v.setI k x).s k' = v.s k' := rfl

/-- independent recount of a bundle -/
structure BundleTotals where
  items : Int
  amount : Int
  micrValid : Int
  images : Int

def recountBundle (b : Bundle Vals) : BundleTotals :=
  { items := ((b.checks ++ b.returns).length : Int),
    amount := sumInt ((b.checks ++ b.returns).map (fun i => i.detail.i "ItemAmount")),
    micrValid := sumInt (b.checks.map (fun i => if i.detail.i "MICRValidIndicator" == 1 then i.detail.i "ItemAmount" else 0)),
    images := sumInt ((b.checks ++ b.returns).map (fun i => (i.ivDetail.length : Int))) }

/-- **bundle control = recount**: items, amount, MICR-valid amount, image count; content untouched -/
theorem bundle_control_recount (m : Model) (b b' : Bundle Vals) (h : bundleBuild m b = .ok b') :
    b'.checks = b.checks ∧ b'.returns = b.returns ∧ b'.header = b.header ∧
    ∃ bc, b'.control = some bc ∧
      bc.i "BundleItemsCount" = (recountBundle b).items ∧
      bc.i "BundleTotalAmount" = (recountBundle b).amount ∧
      bc.i "MICRValidTotalAmount" = (recountBundle b).micrValid ∧
      bc.i "BundleImagesCount" = (recountBundle b).images ∧
      bc.i "CreditTotalIndicator" = 0 := by
  have hb := bundleBuild_ok m b b' h
  subst hb
  refine ⟨rfl, rfl, rfl, _, rfl, ?_, ?_, ?_, ?_, ?_⟩ <;> cases hc : b.control <;>
    simp only [recountBundle, bundleControlOf, hc, Vals.setI_i, Vals.setS_i, String.reduceEq, ↓reduceIte]

/-- **file control = recount**: cash letter count, record count, item count, amount -/
theorem file_control_recount (m : Model) (f f' : File Vals) (h : fileCreate m f = .ok f') :
    f'.control.i "CashLetterCount" = (f'.cashLetters.length : Int) ∧
    f'.control.i "TotalRecordCount" = ((2 + (f'.cashLetters.map clRecordCount).sum : Nat) : Int) ∧
    f'.control.i "TotalItemCount" =
      ((f'.cashLetters.flatMap (fun cl => cl.bundles.flatMap (fun b => b.checks ++ b.returns))).length : Int) ∧
    f'.control.i "FileTotalAmount" =
      sumInt ((f'.cashLetters.flatMap (fun cl => cl.bundles.flatMap (fun b => b.checks ++ b.returns))).map
        (fun i => i.detail.i "ItemAmount")) := by
  obtain ⟨cls, _, _, _, _, _, hf⟩ := fileCreate_inv m f f' h
  subst hf
  refine ⟨?_, ?_, ?_, ?_⟩ <;> simp only [fileControlOf, Vals.setI_i, Vals.setS_i, String.reduceEq, ↓reduceIte]

/-- **TotalRecordCount = records written**: after a successful File.Create, for every file whose
image-view lists pass the writer's consistency check, the control's record count is exactly the
length of the writer walk -/
theorem total_record_count_is_written (m : Model) (f f' : File Vals) (h : fileCreate m f = .ok f')
    (hw : f'.imageCountsOK = true) :
    f'.control.i "TotalRecordCount" = (f'.flatten.length : Int) := by
  rw [(file_control_recount m f f' h).2.1, file_count_eq_flatten f' hw]

@[simp] theorem setD_i (v : Vals) (k k' : String) (x : Date) : (v.setD k x).i k' = v.i k' := rfl

/-- every bundle that `CashLetter.build` produces carries a recounted control record -/
theorem buildBundles_controls (m : Model) : ∀ (n : Nat) (bs bs' : List (Bundle Vals)), buildBundles m n bs = .ok bs' →
    ∀ b' ∈ bs', ∃ bc, b'.control = some bc ∧
      bc.i "BundleItemsCount" = (recountBundle b').items ∧ bc.i "BundleTotalAmount" = (recountBundle b').amount ∧
      bc.i "MICRValidTotalAmount" = (recountBundle b').micrValid ∧ bc.i "BundleImagesCount" = (recountBundle b').images
  | n, bs, bs', h => by
    fun_induction buildBundles m n bs generalizing bs' with
    | case1 n => cases h; intro b' hb'; simp at hb'
    | case6 n b r hd hh b1 hv b2 hb2 rs hr ih =>
      cases h
      intro b' hb'
      rcases List.mem_cons.mp hb' with rfl | hb'
      · -- the recount of the bundle as numbered is the recount of the bundle as built: same items
        obtain ⟨h1, h2, _, bc, hbc, e1, e2, e3, e4, _⟩ := bundle_control_recount m _ _ hb2
        have hrc : recountBundle b' = recountBundle b1 := by simp only [recountBundle, h1, h2]
        exact ⟨bc, hbc, hrc ▸ e1, hrc ▸ e2, hrc ▸ e3, hrc ▸ e4⟩
      · exact ih rs hr b' hb'
    | _ => cases h

/-- **cash letter control = recount**: bundle count, items (checks + returns + credit items, the latter
present exactly when CreditTotalIndicator is 1), amount, image count - over the bundles of the built
cash letter; and every bundle control of the built cash letter is a recount (above) -/
theorem cashLetter_control_recount (m : Model) (cl cl' : CashLetter Vals) (h : cashLetterBuild m cl = .ok cl') :
    cl'.creditItems = cl.creditItems ∧ cl'.credits = cl.credits ∧ cl'.rns = cl.rns ∧ cl'.header = cl.header ∧
    buildBundles m 1 cl.bundles = .ok cl'.bundles ∧
    ∃ c, cl'.control = some c ∧
      c.i "CashLetterBundleCount" = (cl'.bundles.length : Int) ∧
      c.i "CashLetterItemsCount" =
        (((cl'.bundles.flatMap (fun b => b.checks ++ b.returns)).length + cl'.creditItems.length : Nat) : Int) ∧
      c.i "CashLetterTotalAmount" = sumInt ((cl'.bundles.flatMap (fun b => b.checks ++ b.returns)).map (fun i => i.detail.i "ItemAmount")) ∧
      c.i "CashLetterImagesCount" = sumInt ((cl'.bundles.flatMap (fun b => b.checks ++ b.returns)).map (fun i => (i.ivDetail.length : Int))) ∧
      c.i "CreditTotalIndicator" = (if cl'.creditItems.isEmpty then 0 else 1) := by
  obtain ⟨hd, bs, hh, hv, hbs, he⟩ := C17.cashLetterBuild_ok m cl cl' h
  subst he
  refine ⟨rfl, rfl, rfl, rfl, hbs, _, rfl, ?_, ?_, ?_, ?_, ?_⟩ <;>
    simp only [C17.clCarry_i, C17.clBase, Vals.setI_i, Vals.setS_i, String.reduceEq, ↓reduceIte, Int.natCast_add]

end Icl.C06
