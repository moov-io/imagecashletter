/-
`File.Create` of file.go is TRANSLATED statement by statement into Lean (Gen/CreateT.lean, regenerated on every
run; its bundle loop calls the translated `Bundle.build`).  Theorem `create_eq_model`: for every file the
translation and the build model (`fileCreate`, Build.lean - the function the C06 / C09 / C17 theorems speak about)
return the same result: the same error, or the same file with the same rebuilt bundles and the same control record.
So `file_control_recount` (C06) is a theorem about the accumulators `fileTotalRecordCount`, `fileTotalItemCount`,
`fileTotalAmount`, `creditIndicator` of the source.
-/
import IclModel.Gen.CreateT
import IclModel.Props.C06Build
import IclModel.Lemmas.MapE
import IclModel.Lemmas.Vals
namespace Icl.CreateEq
open Icl Icl.BuildRT Icl.BuildEq
open Icl.ClBuildEq (itemsB amountOf amountOf_append)

/-- `File.Create`, body of `for _, cd := range b.Checks`: item count, records (item, addenda, image views), amount -/
def tC (σ : Env) (cd : Item Vals) : Env :=
  let σ := σ.set "fileTotalItemCount" ((σ.get "fileTotalItemCount") + (1 : Int))
  let σ := σ.set "fileTotalRecordCount" ((σ.get "fileTotalRecordCount") + (1 : Int))
  let σ := σ.set "fileTotalRecordCount" ((((σ.get "fileTotalRecordCount") + (cd.addA.length : Int)) + (cd.addB.length : Int)) + (cd.addC.length : Int))
  let σ := σ.set "fileTotalRecordCount" ((((σ.get "fileTotalRecordCount") + (cd.ivDetail.length : Int)) + (cd.ivData.length : Int)) + (cd.ivAnalysis.length : Int))
  let σ := σ.set "fileTotalAmount" ((σ.get "fileTotalAmount") + cd.detail.i "ItemAmount")
  σ

/-- `File.Create`, body of `for _, rd := range b.Returns` (addenda D counted too) -/
def tR (σ : Env) (rd : Item Vals) : Env :=
  let σ := σ.set "fileTotalItemCount" ((σ.get "fileTotalItemCount") + (1 : Int))
  let σ := σ.set "fileTotalRecordCount" ((σ.get "fileTotalRecordCount") + (1 : Int))
  let σ := σ.set "fileTotalRecordCount" (((((σ.get "fileTotalRecordCount") + (rd.addA.length : Int)) + (rd.addB.length : Int)) + (rd.addC.length : Int)) + (rd.addD.length : Int))
  let σ := σ.set "fileTotalRecordCount" ((((σ.get "fileTotalRecordCount") + (rd.ivDetail.length : Int)) + (rd.ivData.length : Int)) + (rd.ivAnalysis.length : Int))
  let σ := σ.set "fileTotalAmount" ((σ.get "fileTotalAmount") + rd.detail.i "ItemAmount")
  σ

/-- `File.Create`, what one bundle adds to the locals: header and control, then the two item loops -/
def tB (σ : Env) (b : Bundle Vals) : Env :=
  let σ := σ.set "fileTotalRecordCount" ((σ.get "fileTotalRecordCount") + (2 : Int))
  let σ := b.checks.foldl tC σ
  let σ := b.returns.foldl tR σ
  σ

/-- `File.Create`, what a cash letter adds in front of its bundle loop: header and control, credit items (which
set the credit indicator), credits and routing number summaries -/
def tPre (σ : Env) (cl : CashLetter Vals) : Env :=
  let σ := σ.set "fileTotalRecordCount" ((σ.get "fileTotalRecordCount") + (2 : Int))
  let σ := if decide ((cl.creditItems.length : Int) > (0 : Int)) then (
      let σ := σ.set "fileTotalRecordCount" ((σ.get "fileTotalRecordCount") + (cl.creditItems.length : Int))
      let σ := σ.set "creditIndicator" (1 : Int)
      σ) else σ
  let σ := σ.set "fileTotalRecordCount" (((σ.get "fileTotalRecordCount") + (cl.credits.length : Int)) + (cl.rns.length : Int))
  σ

/-- `File.Create`, what one cash letter adds to the locals -/
def tCl (σ : Env) (cl : CashLetter Vals) : Env := cl.bundles.foldl tB (tPre σ cl)

structure Tally where
  cls : Int
  recs : Int
  items : Int
  amount : Int
  credit : Int

def tally (σ : Env) : Tally :=
  ⟨σ.get "fileCashLetterCount", σ.get "fileTotalRecordCount", σ.get "fileTotalItemCount", σ.get "fileTotalAmount", σ.get "creditIndicator"⟩

/-- what an element of a loop over containers adds: its records, its items and their amounts, and it may raise the credit flag -/
def Tally.add (T : Tally) (rc : Int) (its : List (Item Vals)) (cr : Bool) : Tally :=
  ⟨T.cls, T.recs + rc, T.items + (its.length : Nat), T.amount + amountOf its, if cr then 1 else T.credit⟩

theorem Tally.add_add (T : Tally) (r1 r2 : Int) (i1 i2 : List (Item Vals)) (c1 c2 : Bool) :
    (T.add r1 i1 c1).add r2 i2 c2 = T.add (r1 + r2) (i1 ++ i2) (c2 || c1) := by
  cases c1 <;> cases c2 <;> simp [Tally.add, amountOf_append, Int.add_assoc]

theorem Tally.add_zero (T : Tally) : T.add 0 [] false = T := by
  simp [Tally.add, amountOf, sumInt_nil]

theorem foldl_tally {α : Type} (t : Env → α → Env) (rc : α → Nat) (its : α → List (Item Vals)) (cr : α → Bool)
    (ht : ∀ σ x, tally (t σ x) = (tally σ).add (rc x) (its x) (cr x)) (l : List α) : ∀ σ : Env,
    tally (l.foldl t σ) = (tally σ).add ((l.map rc).sum : Nat) (l.flatMap its) (l.any cr) := by
  induction l with
  | nil => intro σ; exact (Tally.add_zero _).symm
  | cons x r ih =>
    intro σ
    rw [List.foldl_cons, ih, ht, Tally.add_add]
    simp only [List.map_cons, List.sum_cons, List.flatMap_cons, List.any_cons, Bool.or_comm, Int.natCast_add]

theorem tally_tC (σ : Env) (x : Item Vals) : tally (tC σ x) = (tally σ).add (itemRecordCount true x) [x] false := by
  unfold tally tC itemRecordCount Tally.add amountOf
  simp [sumInt_cons, sumInt_nil]
  omega

theorem tally_tR (σ : Env) (x : Item Vals) : tally (tR σ x) = (tally σ).add (itemRecordCount false x) [x] false := by
  unfold tally tR itemRecordCount Tally.add amountOf
  simp [sumInt_cons, sumInt_nil]
  omega

theorem tally_bump (σ : Env) (x : Int) :
    tally (σ.set "fileTotalRecordCount" ((σ.get "fileTotalRecordCount") + x)) = (tally σ).add x [] false := by
  simp [tally, Tally.add, amountOf, sumInt_nil]

theorem tally_tB (σ : Env) (b : Bundle Vals) : tally (tB σ b) = (tally σ).add (bundleRecordCount b) (itemsB b) false := by
  unfold tB
  rw [foldl_tally tR _ (fun x => [x]) (fun _ => false) tally_tR, foldl_tally tC _ (fun x => [x]) (fun _ => false) tally_tC,
    tally_bump σ 2, Tally.add_add, Tally.add_add]
  simp [bundleRecordCount, itemsB, List.any_eq, Int.add_assoc]

theorem tally_tPre (σ : Env) (cl : CashLetter Vals) :
    tally (tPre σ cl) = (tally σ).add (2 + cl.creditItems.length + cl.credits.length + cl.rns.length : Nat) [] (!cl.creditItems.isEmpty) := by
  unfold tPre tally Tally.add
  rw [len_gt_zero]
  cases cl.creditItems <;> simp [amountOf, sumInt_nil] <;> omega

theorem tally_tCl (σ : Env) (cl : CashLetter Vals) :
    tally (tCl σ cl) = (tally σ).add (clRecordCount cl) (cl.bundles.flatMap itemsB) (!cl.creditItems.isEmpty) := by
  unfold tCl
  rw [foldl_tally tB _ _ (fun _ => false) tally_tB, tally_tPre, Tally.add_add]
  simp [clRecordCount, List.any_eq]

/-- the locals of `File.Create` before the loops -/
def σ0 (n : Int) : Env :=
  Env.set (Env.set (Env.set (Env.set (Env.set [] "fileCashLetterCount" n) "fileTotalRecordCount" 2) "fileTotalItemCount" 0) "fileTotalAmount" 0) "creditIndicator" 0

/-- every statement of the translated method had a recognised shape -/
theorem create_recognised : Gen.F.recognised = true := by decide

theorem bundle_body (m : Model) (b : Bundle Vals) (σ : Env) :
    (match bundleValidate b with
      | some fld => (Except.error (ErrClass.bundle, fld) : Except BErr (Bundle Vals × Env))
      | none =>
        match Gen.B.build m b with
        | .error e => .error e
        | .ok b' => .ok (b', tB σ b)) =
    match gB m b with | .error e => .error e | .ok y => .ok (y, tB σ b) := by
  unfold gB
  rw [build_eq_model]
  cases bundleValidate b with
  | some f => rfl
  | none => rfl

/-- **`File.Create` as translated from file.go is the build model**, for every file -/
theorem create_eq_model (m : Model) (f : File Vals) : Gen.F.create m f = fileCreate m f := by
  unfold Gen.F.create fileCreate
  simp only [vOpt_some, len_le_zero]
  cases vErr m Kind.fileHeader f.header with
  | some e => rfl
  | none =>
    by_cases he : f.cashLetters.isEmpty = true
    · simp only [he, if_true]
    · simp only [he, Bool.false_eq_true, if_false]
      rw [forMapE_split f.cashLetters (gCL m) tCl]
      · rw [fileCashLetters_eq]
        cases hm : mapE (gCL m) f.cashLetters with
        | error e => rfl
        | ok cls =>
          have ht := foldl_tally tCl _ _ _ tally_tCl cls (σ0 (f.cashLetters.length : Int))
          simp only [tally, σ0, Tally.add, Tally.mk.injEq, get_set, String.reduceEq, ↓reduceIte] at ht
          obtain ⟨t1, t2, t3, t4, t5⟩ := ht
          simp only [t1, t2, t3, t4, t5, Option.map_some, Option.getD_some, Int.zero_add]
          unfold fileControlOf
          simp only [Vals.setS_s, Vals.setI_s, String.reduceEq, ↓reduceIte]
          rw [mapE_length _ _ _ hm, Int.natCast_add]
          rfl
      · intro cl σ
        rw [forMapE_split cl.bundles (gB m) tB]
        · unfold gCL clErr
          rw [← fileBundles_eq]
          cases cashLetterValidate m cl with
          | some e => rfl
          | none =>
            cases vOpt m Kind.cashLetterHeader cl.header with
            | some e => rfl
            | none =>
              cases firstErr (vErr m Kind.creditItem) cl.creditItems with
              | some e => rfl
              | none =>
                cases firstErr (vErr m Kind.credit) cl.credits with
                | some e => rfl
                | none =>
                  cases firstErr (fun r => match r with | some v => vErr m Kind.rns v | none => some (ErrClass.file, "RoutingNumberSummary")) cl.rns with
                  | some e => rfl
                  | none => cases fileBundles m cl.bundles <;> rfl
        · intro b σ'
          refine (bundle_body m b σ').trans ?_
          cases hb : gB m b with
          | error e => rfl
          | ok y =>
            rw [bundleBuild_ok m b y (gB_ok m b y hb).2]
            rfl

end Icl.CreateEq
