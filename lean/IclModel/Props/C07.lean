/-
C07 — building a cash letter numbers bundles, items and addenda consistently.

Theorems about the model build loops (`numberChecks`, `numberReturns`, `buildBundles` in Build.lean;
tied to cashLetter.go by the `buildcl` correspondence stream on cash letters with many addenda and
mixed blank / supplied sequence numbers, and by `clbuild_eq_model`, Props/C07Build.lean: `CashLetter.build` as
translated from the source is `cashLetterBuild`):
  * every numbered addendum list carries 1, 2, 3, … (up to the maximum the bundle validation allows);
  * every addendum that references its item's sequence number is stamped with the SAME integer its
    item is stamped with;
  * a supplied item sequence number keeps its numeric value;
  * bundles are numbered 1..n.
Uniqueness of FILLED-IN numbers does not hold (a filled value can collide with a later supplied
one): `filled_can_collide` exhibits the witness; recorded as a finding.
-/
import IclModel.Lemmas.Number
namespace Icl.C07
open Icl

theorem recNums_iota (limit n : Nat) (h : n ≤ limit) : recNums limit n = (List.range n).map (fun i => ((i + 1 : Nat) : Int)) := by
  unfold recNums
  apply List.map_congr_left
  intro i hi
  have : i < n := by simpa using hi
  have : i % limit = i := Nat.mod_eq_of_lt (by omega)
  simp [this]

theorem zipSet_length (vs : List Vals) (f : Vals → Int → Vals) (ns : List Int) (h : ns.length = vs.length) :
    (zipSet vs f ns).length = vs.length := by
  simp [zipSet, h]

/-- what "numbered consistently with sequence number `s`" means for a check item -/
def CheckNumbered (s : Int) (it : Item Vals) : Prop :=
  it.detail.s "EceInstitutionItemSequenceNumber" = numericField s 15 ∧
  (∀ i (h : i < it.addA.length), (it.addA[i]).i "RecordNumber" = ((i % 9 + 1 : Nat) : Int) ∧
      (it.addA[i]).s "BOFDItemSequenceNumber" = numericField s 15) ∧
  (∀ i (h : i < it.addC.length), (it.addC[i]).i "RecordNumber" = ((i % 99 + 1 : Nat) : Int) ∧
      (it.addC[i]).s "EndorsingBankItemSequenceNumber" = itoa s)

@[simp] theorem setI_i (v : Vals) (k k' : String) (x : Int) : (v.setI k x).i k' = if k' = k then x else v.i k' := rfl
@[simp] theorem setS_s (v : Vals) (k k' : String) (x : Bytes) : (v.setS k x).s k' = if k' = k then x else v.s k' := rfl
@[simp] theorem setI_s (v : Vals) (k k' : String) (x : Int) : (v.setI k x).s k' = v.s k' := rfl
@[simp] theorem setS_i (v : Vals) (k k' : String) (x : Bytes) : (v.setS k x).i k' = v.i k' := rfl

theorem checkNumbered_stamp (s : Int) (it : Item Vals) : CheckNumbered s (stampC s it) := by
  simp only [CheckNumbered, stampC, zipSet_recNums, List.getElem_mapIdx, Vals.setS_s_self, Vals.setI_i, Vals.setI_s, ↓reduceIte,
    implies_true, and_self]

/-- **check items**: each built item is numbered consistently with `seqOf` of the running counter, and
the counter continues from that number -/
theorem numberChecks_spec (counter : Int) (items : List (Item Vals)) :
    (numberChecks counter items).length = items.length ∧
    ∀ i (h : i < items.length) (h' : i < (numberChecks counter items).length),
      ∃ s, CheckNumbered s ((numberChecks counter items)[i]) ∧
        (¬ (items[i].detail.s "EceInstitutionItemSequenceNumber").isEmpty →
          s = parseNum (items[i].detail.s "EceInstitutionItemSequenceNumber")) := by
  rw [numberChecks_eq]
  refine ⟨numberWith_length .., fun i h h' => ?_⟩
  obtain ⟨s, hs, hp⟩ := numberWith_getElem stampC items counter i h h'
  exact ⟨s, hs ▸ checkNumbered_stamp s _, hp⟩

/-- what "numbered consistently with sequence number `s`" means for a return item -/
def ReturnNumbered (s : Int) (it : Item Vals) : Prop :=
  it.detail.s "EceInstitutionItemSequenceNumber" = itoa s ∧
  (∀ i (h : i < it.addA.length), (it.addA[i]).i "RecordNumber" = ((i % 9 + 1 : Nat) : Int) ∧
      (it.addA[i]).s "BOFDItemSequenceNumber" = itoa s) ∧
  (∀ i (h : i < it.addD.length), (it.addD[i]).i "RecordNumber" = ((i % 99 + 1 : Nat) : Int) ∧
      (it.addD[i]).s "EndorsingBankItemSequenceNumber" = itoa s)

theorem returnNumbered_stamp (s : Int) (it : Item Vals) : ReturnNumbered s (stampR s it) := by
  simp only [ReturnNumbered, stampR, zipSet_recNums, List.getElem_mapIdx, Vals.setS_s_self, Vals.setI_i, Vals.setI_s, ↓reduceIte,
    implies_true, and_self]

/-- **return items**: numbered like check items - addenda A and D carry 1, 2, 3, … and the number of
their item, a supplied number keeps its value, the counter continues from it -/
theorem numberReturns_spec (counter : Int) (items : List (Item Vals)) :
    (numberReturns counter items).length = items.length ∧
    ∀ i (h : i < items.length) (h' : i < (numberReturns counter items).length),
      ∃ s, ReturnNumbered s ((numberReturns counter items)[i]) ∧
        (¬ (items[i].detail.s "EceInstitutionItemSequenceNumber").isEmpty →
          s = parseNum (items[i].detail.s "EceInstitutionItemSequenceNumber")) := by
  rw [numberReturns_eq]
  refine ⟨numberWith_length .., fun i h h' => ?_⟩
  obtain ⟨s, hs, hp⟩ := numberWith_getElem stampR items counter i h h'
  exact ⟨s, hs ▸ returnNumbered_stamp s _, hp⟩

/-- **bundles are numbered 1..n** (and the build keeps their number and order) -/
theorem buildBundles_numbers (m : Model) (n : Nat) (bs bs' : List (Bundle Vals))
    (h : buildBundles m n bs = .ok bs') :
    bs'.length = bs.length ∧
    ∀ i (hi : i < bs'.length), ∃ hd, bs'[i].header = some hd ∧ hd.s "BundleSequenceNumber" = numericField ((n + i : Nat) : Int) 4 := by
  fun_induction buildBundles m n bs generalizing bs' with
  | case1 n => cases h; exact ⟨rfl, fun i hi => absurd hi (Nat.not_lt_zero i)⟩
  | case6 n b r hd hh b1 hv b2 hb2 rs hr ih =>
    cases h
    have ih := ih rs hr
    refine ⟨by simp [ih.1], fun i hi => ?_⟩
    cases i with
    | zero =>
      -- bundleBuild keeps the header
      have hb := bundleBuild_ok m _ _ hb2
      subst hb
      exact ⟨_, rfl, by simp⟩
    | succ k =>
      simp only [List.getElem_cons_succ]
      obtain ⟨hd', h1, h2⟩ := ih.2 k (by simpa using hi)
      refine ⟨hd', h1, ?_⟩
      rw [h2]
      congr 2
      omega
  | _ => cases h

/-- **finding, with its witness**: a blank sequence number is filled with the running counter, which a
later supplied number may equal — two items of one bundle end up with the same number -/
theorem filled_can_collide :
    let blank : Item Vals := { detail := {} }
    let one : Item Vals := { detail := ({} : Vals).setS "EceInstitutionItemSequenceNumber" [0x31] }
    ((numberChecks 1 [blank, one]).map (fun it => it.detail.s "EceInstitutionItemSequenceNumber")) =
      [numericField 1 15, numericField 1 15] := by
  have h1 : parseNum [0x31] = 1 := by decide
  simp [numberChecks, seqOf, h1]

end Icl.C07
