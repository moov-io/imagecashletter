/-
C14 - read-only endpoints do not change what is stored.

On the handler model: the four GET handlers return the store they were given, for every store
(no invariant needed) - each is a single `GetFile`/`GetFiles` followed by local computation on the
value handed out.  Hence any number of them, in any order, anywhere in a history, leaves every later
response unchanged.  (That the *values* handed out by the real repository share memory with the stored
ones is not expressible on this level; the before/after comparison of the correspondence harness is
what ties the real handlers to this model.)
-/
import IclModel.Lemmas.Api
namespace Icl.Api

theorem C14_readonly (s : Store) (r : Req) (h : r.isRead = true) : (step s r).1 = s := by
  cases r with
  | list => rfl
  | get id => rw [step_get]
  | contents id => rw [step_contents]
  | validate id => rw [step_validate]
  | _ => cases h

/-- a block of read-only requests is the identity on the store -/
theorem C14_reads_identity (s : Store) (reads : List Req) (h : ∀ r ∈ reads, r.isRead = true) :
    (runHistory s reads).1 = s := by
  induction reads generalizing s with
  | nil => rfl
  | cons r rs ih =>
    have h1 := C14_readonly s r (h r (by simp))
    simp only [runHistory]
    rw [h1]
    exact ih s (fun r hr => h r (by simp [hr]))

/-- after any prefix, inserting any sequence of read-only requests changes no later response -/
theorem C14_history (s : Store) (pre reads post : List Req) (h : ∀ r ∈ reads, r.isRead = true) :
    (runHistory (runHistory s (pre ++ reads)).1 post).2 = (runHistory (runHistory s pre).1 post).2 := by
  rw [runHistory_append]
  simp only
  rw [C14_reads_identity _ reads h]

/-- non-vacuity: reads interleaved after a mutating prefix -/
example :
    let u : Upload := { asJSON := some ⟨"a", 1, [⟨"c1", 10⟩], 7⟩, asX9E := none, asX9A := none }
    (runHistory [] [.createV1 .json u "g", .validate "a", .contents "a", .list, .get "a", .validate "a"]).1
      = (runHistory [] [.createV1 .json u "g"]).1 := by decide

end Icl.Api
