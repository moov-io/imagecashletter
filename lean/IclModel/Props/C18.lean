/-
C18 — a read error points at the record that caused it.

Model-level theorem: when the reader loop stops with an error at some record, every record before it
was consumed without error and the error's line is that record's 1-based position.  The model's
step function is tied to reader.go by `step_eq` (Props/C04Reader.lean: the translated handlers are the
model's step, error and partial file included) and by the spoiled-record correspondence stream (every
position × every way of spoiling one record), on which the property predicate is also evaluated for the real
Reader, including "the partial file holds only data decoded before that position".
-/
import IclModel.Lemmas.Reassemble
namespace Icl.C18
open Icl

def stepOK (m : Model) (e : Enc) (s : RState) (l : Bytes) : Option RState :=
  if l.length < 80 then none
  else match rstep m e { s with lineNum := s.lineNum + 1 } l with
    | .ok s' => some s'
    | .error _ => none

def LineStable (m : Model) (e : Enc) : Prop :=
  ∀ s l s', rstep m e s l = .ok s' → s'.lineNum = s.lineNum

/-- the model's `parseLine` never touches the line counter: an accepted record is attached by `accept` -/
theorem lineStable (m : Model) (e : Enc) : LineStable m e := by
  intro s l s' h
  obtain ⟨k, hk⟩ := C01.rstep_ok_kind m e s s' l h
  obtain ⟨v, _, ha⟩ := (C01.rstep_ok_iff m e s s' l k hk).1 h
  exact C01.accept_lineNum ha

/-- **error position and partial file**: when the record loop fails, the records before some position `i`
were accepted, leading to `si`, and record `i` was rejected; the state returned holds the file of `si`
(nothing of the rejected record) and the error carries the 1-based position `i + 1` -/
theorem readLines_error (m : Model) (e : Enc) (ls : List Bytes) (s s' : RState) (er : RErr)
    (h : readLines m e ls s = (s', some er)) :
    ∃ i si, i < ls.length ∧ readLines m e (ls.take i) s = (si, none) ∧ s'.file = si.file ∧
      er.line = s.lineNum + i + 1 := by
  fun_induction readLines m e ls s with
  | case1 => cases h
  | case2 l r s =>
    simp only [Prod.mk.injEq, Option.some.injEq] at h
    obtain ⟨rfl, rfl⟩ := h
    exact ⟨0, s, by simp, rfl, rfl, rfl⟩
  | case3 l r s s1 hlen s2 hs2 ih =>
    obtain ⟨i, si, hi, hr, hf, hl⟩ := ih h
    refine ⟨i + 1, si, by simp; omega, ?_, hf, ?_⟩
    · simp only [s1] at hs2
      simp only [List.take_succ_cons, readLines, hlen, if_false, hs2, hr]
    · rw [hl, lineStable m e _ _ _ hs2]; simp only [s1]; omega
  | case4 l r s s1 hlen s2 er2 hs2 =>
    simp only [Prod.mk.injEq, Option.some.injEq] at h
    obtain ⟨rfl, rfl⟩ := h
    obtain ⟨⟨n, rfl⟩, _⟩ := C01.rstep_error m e _ _ l _ hs2
    exact ⟨0, s, by simp, rfl, rfl, rfl⟩

/-- **C18, position**: a failed read names the 1-based position of a record of the input -/
theorem C18_error_line (m : Model) (e : Enc) (ls : List Bytes) (s' : RState) (er : RErr)
    (h : readLines m e ls (initState m) = (s', some er)) :
    ∃ i, i < ls.length ∧ er.line = i + 1 := by
  obtain ⟨i, _, hi, _, _, hl⟩ := readLines_error m e ls _ s' er h
  exact ⟨i, hi, by simpa [initState] using hl⟩

/-- **C18, partial file**: the step that rejects a record leaves `r.File` (header, control, completed
cash letters) exactly as it was before that record: whatever the partial file holds was decoded from
earlier records -/
theorem rejected_record_leaves_file (m : Model) (e : Enc) (s s' : RState) (l : Bytes) (er : RErr)
    (h : rstep m e s l = .error (s', er)) :
    s'.header = s.header ∧ s'.control = s.control ∧ s'.cashLetters = s.cashLetters := by
  obtain ⟨⟨n, rfl⟩, _⟩ := C01.rstep_error m e s s' l er h
  exact ⟨rfl, rfl, rfl⟩

end Icl.C18
