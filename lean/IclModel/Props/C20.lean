/-
C20 — the bundled Go client and the server agree on the wire format.

`Gen.serverSchema` / `Gen.clientSchema` are regenerated from the struct tags and field types of the
library model and of client/model_*.go.  `mismatches` lists the server members for which the client
has no member of a matching (case-insensitive) JSON name, or only one whose type cannot hold every
value (an `int32` for an amount whose X9 column has 10+ digits, …).  On the pinned tree the property
is FALSE for the members listed in Spec/SchemaFindings.lean (recorded findings: the client is
generated from a drifted openapi.yaml); the theorem pins the set exactly, so a further drift (a
renamed tag, a narrowed type, a dropped member on either side) breaks it.
-/
import IclModel.Gen.SchemaTables
import IclModel.Spec.SchemaFindings
namespace Icl.C20
open Icl

theorem wire_mismatches :
    mismatches Gen.serverSchema Gen.clientSchema Gen.intWidths = Spec.knownMismatches := by decide +kernel

/-- every server member OUTSIDE the recorded list has a client member with the same JSON name (up to
case) and a type that holds all its values -/
theorem other_members_embed (sn : String) (ms : List Member) (h : (sn, ms) ∈ Gen.serverSchema) (m : Member) (hm : m ∈ ms)
    (hk : ∀ r, (sn, m.json, r) ∉ Spec.knownMismatches) (hs : ∀ r, (sn, "*", r) ∉ Spec.knownMismatches) :
    ∀ r, (sn, m.json, r) ∉ mismatches Gen.serverSchema Gen.clientSchema Gen.intWidths := by
  intro r
  rw [wire_mismatches]
  exact hk r

end Icl.C20
