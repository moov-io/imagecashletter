/-
C17 — validating, formatting, writing and encoding never modify the file.

(1) Regenerated write-effect table: for every observer method of every library type (Validate,
    fieldInclusion, String, toString, every *Field getter, MarshalJSON, Get*, …) the translator lists
    the assignments made through the receiver; `effects_only_frb` shows there are exactly two, both under
    an FRB-mode condition.  A validator or formatter that "helpfully" normalises a field in place adds
    a row and breaks the theorem.
(2) Model: rendering and writing are functions of the record values (no state to modify); validation
    threads the record through `evalS`, and `validate_off_is_identity` proves that with the mode off
    every regenerated rule tree returns the record it was given, for every record value.
(3) Building twice = building once: proved for `File.Create()` and the `Bundle.build()` inside it
    (`C17_file_create_twice`, `C17_bundle_build_twice`: the rebuilt controls are functions of the items
    and of the caller-settable members a build carries over, and of `m.now`, the one time the model stamps into a
    fresh control record where the source calls `time.Now()`).  `CashLetter.Create()` renumbers items from
    their own rendered sequence numbers: `C17_cashletter_create_twice_partial` proves idempotence under the
    hypothesis the proof forces (`BundleCanon`: every sequence number, supplied or filled, lies in
    0..10^15-1 for check items and 0..2^63-1 for return items - i.e. survives the 15-column field), using
    the field-level inverse `parseNum (numericField n 15) = n` (Lemmas/Inverse.lean).  Outside that range
    the full statement is FALSE of the model and of the code: `build_twice_can_differ` is the witness
    (supplied number "-5"), replayed on the real CashLetter.Create by the harness (recorded finding).
-/
import IclModel.Lemmas.BuildIdem
import IclModel.Lemmas.NumberIdem
import IclModel.Gen.Rules
import IclModel.Gen.Effects
namespace Icl.C17
open Icl

/-- the only writes through a receiver in any observer method are the two FRB normalisations -/
theorem effects_only_frb :
    Gen.writeEffects =
      [("CheckDetailAddendumA", "fieldInclusion", "TruncationIndicator", true),
       ("ImageViewDetail", "Validate", "DigitalSignatureMethod", true)] := by rfl

def onOnly : BExp → Bool
  | .frb => true
  | .and a b => onOnly a || onOnly b
  | _ => false

theorem onOnly_off (cx : VCtx) (v : Vals) (c : BExp) (h : onOnly c = true) (hf : cx.frb = false) :
    evalB cx v c = false := by
  induction c with
  | frb => simp [evalB, hf]
  | and x y ihx ihy =>
    simp only [onOnly, Bool.or_eq_true] at h
    cases h with
    | inl hx => simp [evalB, ihx hx]
    | inr hy => simp [evalB, ihy hy]
  | _ => simp [onOnly] at h

/-- every assignment sits in the then-branch of a condition that requires the mode to be on -/
def assignsUnderFrb : Stmt → Bool
  | .assign _ _ => false
  | .seq a b => assignsUnderFrb a && assignsUnderFrb b
  | .ite c a b => (onOnly c || assignsUnderFrb a) && assignsUnderFrb b
  | _ => true

theorem evalS_off_identity (cx : VCtx) (hf : cx.frb = false) (s : Stmt) (v v' : Vals)
    (h : assignsUnderFrb s = true) (he : evalS cx s v = .cont v') : v' = v := by
  fun_induction evalS cx s v generalizing v' with
  | case1 v => cases he; rfl
  | case2 a b v w hea iha ihb =>
    simp only [assignsUnderFrb, Bool.and_eq_true] at h
    cases iha w h.1 hea
    exact ihb v' h.2 he
  | case3 a b v hne iha => exact absurd he (hne v')
  | case4 c a b v hc iha =>
    simp only [assignsUnderFrb, Bool.and_eq_true, Bool.or_eq_true] at h
    exact iha v' (h.1.resolve_left fun hon => by rw [onOnly_off cx v c hon hf] at hc; cases hc) he
  | case5 c a b v hc ihb =>
    simp only [assignsUnderFrb, Bool.and_eq_true] at h
    exact ihb v' h.2 he
  | case6 f v => cases he
  | case7 f x v => cases h
  | case8 v => cases he

theorem all_assigns_under_frb : (Gen.allRules.all fun p => assignsUnderFrb p.2) = true := by decide

/-- **validation is an observation (mode off)**: for every record kind and every record value,
`Validate()` returns the record unchanged -/
theorem validate_off_is_identity (cx : VCtx) (hf : cx.frb = false) (p : String × Stmt) (hp : p ∈ Gen.allRules)
    (v : Vals) : (validate cx p.2 v).2 = v := by
  have h : assignsUnderFrb p.2 = true := List.all_eq_true.mp all_assigns_under_frb p hp
  unfold validate
  cases he : evalS cx p.2 v with
  | cont w => simp only []; exact evalS_off_identity cx hf p.2 v w h he
  | rejected f => rfl
  | stuck => rfl

/-- validating twice gives the same verdict as validating once (mode off) -/
theorem validate_repeatable (cx : VCtx) (hf : cx.frb = false) (p : String × Stmt) (hp : p ∈ Gen.allRules)
    (v : Vals) : validate cx p.2 (validate cx p.2 v).2 = validate cx p.2 v := by
  rw [validate_off_is_identity cx hf p hp v]

/-- **`File.Create()` twice = once**, for every file it accepts -/
theorem C17_file_create_twice (m : Model) (f f' : File Vals) (h : fileCreate m f = .ok f') :
    fileCreate m f' = .ok f' := by
  obtain ⟨cls, hh, he, hcls, hn, hp, hf'⟩ := fileCreate_inv m f f' h
  subst hf'
  -- the second call sees the same header, the rebuilt cash letters and the two contact members as they were
  unfold fileCreate
  simp only [hh, fileCashLetters_isEmpty m _ _ hcls, he, Bool.false_eq_true, if_false, fileCashLetters_idem m _ _ hcls,
    fileControlOf_kept m f cls _ (.inl rfl), fileControlOf_kept m f cls _ (.inr (.inl rfl)), hn, hp, Bool.not_true,
    fileControlOf_idem]

/-- **`Bundle.build()` twice = once** -/
theorem C17_bundle_build_twice (m : Model) (b b' : Bundle Vals) (h : bundleBuild m b = .ok b') :
    bundleBuild m b' = .ok b' := bundleBuild_idem m b b' h

/-- **`CashLetter.Create()` twice = once** (PARTIAL: under `BundleCanon` for every bundle; the full
statement fails, see `build_twice_can_differ`) -/
theorem C17_cashletter_create_twice_partial (m : Model) (cl cl' : CashLetter Vals)
    (hc : ∀ b ∈ cl.bundles, BundleCanon b) (h : cashLetterCreate m cl = .ok cl') :
    cashLetterCreate m cl' = .ok cl' := by
  revert h
  fun_cases cashLetterCreate m cl <;> intro h
  case case3 c hb hv =>
    cases h
    simp only [cashLetterCreate, cashLetterBuild_idem m cl _ hc hb, hv]
  all_goals cases h

/-- the hypothesis is satisfiable: a bundle whose items carry no number (all filled from the counter) -/
example : BundleCanon { header := none, checks := [{ detail := {} }, { detail := {} }], returns := [], control := none } := by
  simp [BundleCanon, CanonSeq, seqOf]

theorem numericField_neg5 : numericField (-5) 15 = [0x30,0x30,0x30,0x30,0x30,0x30,0x30,0x30,0x30,0x30,0x30,0x30,0x30,0x2D,0x35] := by
  have hi : itoa (-5) = [0x2D, 0x35] := by
    unfold itoa
    rw [natDigits]
    simp [digitByte]
  rw [numericField_fit (-5) 15 (by rw [hi]; decide) (by decide), hi]
  decide

theorem numericField_zero15 : numericField 0 15 = List.replicate 15 0x30 := by
  have hi : itoa 0 = [0x30] := by
    unfold itoa
    rw [natDigits]
    simp [digitByte]
  rw [numericField_fit 0 15 (by rw [hi]; decide) (by decide), hi]
  decide

/-- **finding, with its witness**: a supplied check sequence number the 15-column field cannot hold as
such ("-5": stored zero-filled as "0000000000000-5", which reads back as 0) makes the second build
differ from the first -/
theorem build_twice_can_differ :
    let it : Item Vals := { detail := ({} : Vals).setS "EceInstitutionItemSequenceNumber" [0x2D, 0x35] }
    (numberChecks 1 [it]).map (fun i => i.detail.s "EceInstitutionItemSequenceNumber") ≠
      (numberChecks 1 (numberChecks 1 [it])).map (fun i => i.detail.s "EceInstitutionItemSequenceNumber") := by
  have h1 : parseNum [0x2D, 0x35] = -5 := by decide
  have h2 : parseNum [0x30,0x30,0x30,0x30,0x30,0x30,0x30,0x30,0x30,0x30,0x30,0x30,0x30,0x2D,0x35] = 0 := by decide
  simp only [numberChecks, seqOf, List.map_cons, List.map_nil, Vals.setS_s_self, h1, numericField_neg5, h2,
    numericField_zero15, List.isEmpty_cons, Bool.false_eq_true, if_false]
  decide

end Icl.C17
