/-
`Bundle.build`, `Bundle.ValidateForwardItems` and `Bundle.ValidateReturnItems` of bundle.go are TRANSLATED
statement by statement into Lean (Gen/BuildT.lean, regenerated on every run).  Theorem `build_eq_model`: for every
bundle the translation and the build model (`bundleBuild`, Build.lean - the function the C06 / C07 / C09 / C17
theorems speak about) return the same result: the same error, or the same bundle with the same control record.
So the recount theorem `bundle_control_recount` is a theorem about the source's accumulators.
-/
import IclModel.Gen.BuildT
import IclModel.Lemmas.BuildRT
namespace Icl.BuildEq
open Icl Icl.BuildRT Icl.Gen.B
open Icl.ClBuildEq (amountOf imagesOf)

theorem validateForward_eq (m : Model) (cd : Item Vals) : ValidateForwardItems m cd = validateForwardItems m cd := by
  unfold ValidateForwardItems validateForwardItems
  simp only [Option.or_none]

theorem validateReturn_eq (m : Model) (rd : Item Vals) : ValidateReturnItems m rd = validateReturnItems m rd := by
  unfold ValidateReturnItems validateReturnItems
  simp only [Option.or_none]

/-- what one forward item does to the locals of `Bundle.build` -/
def updC (σ : Env) (cd : Item Vals) : Env :=
  let σ := σ.set "itemCount" ((σ.get "itemCount") + (1 : Int))
  let σ := σ.set "bundleTotalAmount" ((σ.get "bundleTotalAmount") + cd.detail.i "ItemAmount")
  let σ := if decide (cd.detail.i "MICRValidIndicator" = (1 : Int)) then (
      let σ := σ.set "micrValidTotalAmount" ((σ.get "micrValidTotalAmount") + cd.detail.i "ItemAmount")
      σ) else σ
  let σ := σ.set "bundleImagesCount" ((σ.get "bundleImagesCount") + (cd.ivDetail.length : Int))
  σ

/-- what one return item does to them (no MICR-valid amount) -/
def updR (σ : Env) (rd : Item Vals) : Env :=
  let σ := σ.set "itemCount" ((σ.get "itemCount") + (1 : Int))
  let σ := σ.set "bundleTotalAmount" ((σ.get "bundleTotalAmount") + rd.detail.i "ItemAmount")
  let σ := σ.set "bundleImagesCount" ((σ.get "bundleImagesCount") + (rd.ivDetail.length : Int))
  σ

def micrOf (i : Item Vals) : Int := if i.detail.i "MICRValidIndicator" == 1 then i.detail.i "ItemAmount" else 0

structure Acc where
  items : Int
  amount : Int
  micr : Int
  images : Int
  credit : Int

def acc (σ : Env) : Acc :=
  ⟨σ.get "itemCount", σ.get "bundleTotalAmount", σ.get "micrValidTotalAmount", σ.get "bundleImagesCount", σ.get "creditIndicator"⟩

def Acc.add (A : Acc) (its : List (Item Vals)) (withMicr : Bool) : Acc :=
  ⟨A.items + (its.length : Nat), A.amount + amountOf its, A.micr + (if withMicr then sumInt (its.map micrOf) else 0), A.images + imagesOf its,
    A.credit⟩

theorem foldl_acc (t : Env → Item Vals → Env) (withMicr : Bool) (ht : ∀ σ x, acc (t σ x) = (acc σ).add [x] withMicr) (l : List (Item Vals)) :
    ∀ σ : Env, acc (l.foldl t σ) = (acc σ).add l withMicr := by
  induction l with
  | nil => intro σ; simp [Acc.add, amountOf, imagesOf, sumInt_nil]
  | cons x r ih =>
    intro σ
    rw [List.foldl_cons, ih, ht]
    cases withMicr <;> simp [Acc.add, amountOf, imagesOf, sumInt_cons, sumInt_nil, Int.add_assoc, Int.add_comm 1]

theorem acc_updC (σ : Env) (x : Item Vals) : acc (updC σ x) = (acc σ).add [x] true := by
  unfold updC acc Acc.add micrOf amountOf imagesOf
  by_cases hm : x.detail.i "MICRValidIndicator" = 1 <;> simp [hm, sumInt_cons, sumInt_nil]

theorem acc_updR (σ : Env) (x : Item Vals) : acc (updR σ x) = (acc σ).add [x] false := by
  unfold updR acc Acc.add amountOf imagesOf
  simp [sumInt_cons, sumInt_nil]

/-- the locals of `Bundle.build` before the loops -/
abbrev σ0 : Env := Env.set (Env.set (Env.set (Env.set (Env.set [] "itemCount" 0) "bundleTotalAmount" 0) "micrValidTotalAmount" 0) "bundleImagesCount" 0) "creditIndicator" 0

/-- every statement of the translated methods had a recognised shape -/
theorem build_recognised : Gen.B.recognised = true := by decide

/-- **`Bundle.build` as translated from bundle.go is the build model**, for every bundle -/
theorem build_eq_model (m : Model) (b : Bundle Vals) : Gen.B.build m b = bundleBuild m b := by
  unfold Gen.B.build bundleBuild
  -- the header check: both sides look at `b.header` the same way
  show (match vOpt m Kind.bundleHeader b.header with | some e => Except.error e | none => _) =
    (match vOpt m Kind.bundleHeader b.header with | some e => Except.error e | none => _)
  cases vOpt m Kind.bundleHeader b.header with
  | some e => rfl
  | none =>
    simp only [len_le_zero]
    by_cases he : (b.checks.isEmpty && b.returns.isEmpty) = true
    · simp only [he, if_true]
    · simp only [he, Bool.false_eq_true, if_false]
      rw [forEachE_split b.checks (validateCheck m) updC]
      · cases hfc : firstErr (validateCheck m) b.checks with
        | some e => simp [Option.or]
        | none =>
          simp only [Option.none_or]
          rw [forEachE_split b.returns (validateReturn m) updR]
          · cases hfr : firstErr (validateReturn m) b.returns with
            | some e => simp
            | none =>
              -- the locals after both loops: their start values plus the sums over checks, then over returns
              have hr := foldl_acc updR _ acc_updR b.returns (b.checks.foldl updC σ0)
              rw [foldl_acc updC _ acc_updC] at hr
              simp only [acc, Acc.add, Acc.mk.injEq, get_set, String.reduceEq, ↓reduceIte, Int.zero_add, Bool.false_eq_true, Int.add_zero] at hr
              obtain ⟨r1, r2, r3, r4, r5⟩ := hr
              simp only [r1, r2, r3, r4, r5, amountOf, imagesOf]
              unfold bundleControlOf
              simp only [List.length_append, List.map_append, sumInt_append, Int.natCast_add]
              cases b.control <;> rfl
          · intro rd σ
            simp only [validateReturn, validateReturn_eq, updR]
            cases vErr m Kind.returnDetail rd.detail <;> rfl
      · intro cd σ
        simp only [validateCheck, validateForward_eq, updC]
        cases vErr m Kind.checkDetail cd.detail <;> rfl

end Icl.BuildEq
