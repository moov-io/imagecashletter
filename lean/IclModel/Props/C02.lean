/-
C02 — every record is written with the X9.100-187 column layout.

Property theorems only.  Generic facts (Lemmas/Conv, Lemmas/Render, Lemmas/SpecLayout) are
instantiated on the write tables REGENERATED from /repo (`Gen.*`, see harness/extract) through the
hand transcription of the standard (`Spec.*`).  Every `decide` below is a proof obligation about
the current source tree: a getter that reads its neighbour's field, a changed width or converter, a
field added, dropped or reordered in a `String()` makes `gen_write` fail, on which every `write_*` rests.
-/
import IclModel.Lemmas.SpecLayout
import IclModel.Lemmas.Table
import IclModel.Gen.Layouts
import IclModel.Spec.Layouts
namespace Icl.C02
open Icl Icl.Spec

/-- the four converters produce exactly `w` bytes, whatever the value (hostile values included) -/
theorem conv_width (s : Bytes) (n : Int) (w : Nat) (hw : w < maxGrow) :
    (alphaField s w).length = w ∧ (nbsmField s w).length = w ∧ (zstrField s w).length = w ∧
    (numericField n w).length = w :=
  ⟨alphaField_length s w hw, nbsmField_length s w hw, zstrField_length s w hw, numericField_length n w hw⟩

/-- a value too long for its field is cut to the field width (tail cut for alphameric and
zero-filled string fields, head cut for numeric and NBSM fields) -/
theorem conv_cut (s : Bytes) (n : Int) (w : Nat) :
    (w < s.length → alphaField s w = s.take w ∧ zstrField s w = s.take w ∧ nbsmField s w = s.drop (s.length - w)) ∧
    (w < (itoa n).length → numericField n w = (itoa n).drop ((itoa n).length - w)) :=
  ⟨fun h => ⟨alphaField_cut s w h, zstrField_cut s w h, nbsmField_cut s w h⟩, numericField_cut n w⟩

/-- justification and fill of a value that fits -/
theorem conv_fill (s : Bytes) (n : Int) (w : Nat) (hw : w < maxGrow) :
    (s.length ≤ w → alphaField s w = s ++ List.replicate (w - s.length) SP ∧
                    nbsmField s w = List.replicate (w - s.length) SP ++ s ∧
                    zstrField s w = List.replicate (w - s.length) ZERO ++ s) ∧
    ((itoa n).length ≤ w → numericField n w = List.replicate (w - (itoa n).length) ZERO ++ itoa n) :=
  ⟨fun h => ⟨alphaField_fit s w h hw, nbsmField_fit s w h hw, zstrField_fit s w h hw⟩,
   fun h => numericField_fit n w h hw⟩

/-- the three facts about the 23 write tables in one evaluation, which reduces each string of the tables once: the
transcribed layouts are well formed, the regenerated tables are the transcribed ones, and no two entries of a table
read the same source (as `Nodup`, which compares each pair once where `SrcUnique` compares it from both ends).  The
per-record theorems below read off their entry. -/
theorem gen_write : Spec.all.all (fun p => Contiguous p.2 && shiftsFrom [] p.2 && AllWf (toWrite p.2)) = true ∧
    Gen.all.map (·.write) = Spec.all.map (fun p => toWrite p.2) ∧
    Gen.all.all (fun L => decide ((L.write.map (·.src)).Nodup)) = true := by decide +kernel

/-! ## the hand-transcribed layout is itself well-formed (fields contiguous from column 0) -/

theorem spec_fileHeader : (Contiguous fileHeader && shiftsFrom [] fileHeader && AllWf (toWrite fileHeader)) = true := all_at gen_write.1 0 (by decide)
theorem spec_cashLetterHeader : (Contiguous cashLetterHeader && shiftsFrom [] cashLetterHeader && AllWf (toWrite cashLetterHeader)) = true := all_at gen_write.1 1 (by decide)
theorem spec_bundleHeader : (Contiguous bundleHeader && shiftsFrom [] bundleHeader && AllWf (toWrite bundleHeader)) = true := all_at gen_write.1 2 (by decide)
theorem spec_checkDetail : (Contiguous checkDetail && shiftsFrom [] checkDetail && AllWf (toWrite checkDetail)) = true := all_at gen_write.1 3 (by decide)
theorem spec_checkDetailAddendumA : (Contiguous checkDetailAddendumA && shiftsFrom [] checkDetailAddendumA && AllWf (toWrite checkDetailAddendumA)) = true := all_at gen_write.1 4 (by decide)
theorem spec_checkDetailAddendumB : (Contiguous checkDetailAddendumB && shiftsFrom [] checkDetailAddendumB && AllWf (toWrite checkDetailAddendumB)) = true := all_at gen_write.1 5 (by decide)
theorem spec_checkDetailAddendumC : (Contiguous checkDetailAddendumC && shiftsFrom [] checkDetailAddendumC && AllWf (toWrite checkDetailAddendumC)) = true := all_at gen_write.1 6 (by decide)
theorem spec_returnDetail : (Contiguous returnDetail && shiftsFrom [] returnDetail && AllWf (toWrite returnDetail)) = true := all_at gen_write.1 7 (by decide)
theorem spec_returnDetailAddendumA : (Contiguous returnDetailAddendumA && shiftsFrom [] returnDetailAddendumA && AllWf (toWrite returnDetailAddendumA)) = true := all_at gen_write.1 8 (by decide)
theorem spec_returnDetailAddendumB : (Contiguous returnDetailAddendumB && shiftsFrom [] returnDetailAddendumB && AllWf (toWrite returnDetailAddendumB)) = true := all_at gen_write.1 9 (by decide)
theorem spec_returnDetailAddendumC : (Contiguous returnDetailAddendumC && shiftsFrom [] returnDetailAddendumC && AllWf (toWrite returnDetailAddendumC)) = true := all_at gen_write.1 10 (by decide)
theorem spec_returnDetailAddendumD : (Contiguous returnDetailAddendumD && shiftsFrom [] returnDetailAddendumD && AllWf (toWrite returnDetailAddendumD)) = true := all_at gen_write.1 11 (by decide)
theorem spec_imageViewDetail : (Contiguous imageViewDetail && shiftsFrom [] imageViewDetail && AllWf (toWrite imageViewDetail)) = true := all_at gen_write.1 12 (by decide)
theorem spec_imageViewData : (Contiguous imageViewData && shiftsFrom [] imageViewData && AllWf (toWrite imageViewData)) = true := all_at gen_write.1 13 (by decide)
theorem spec_imageViewAnalysis : (Contiguous imageViewAnalysis && shiftsFrom [] imageViewAnalysis && AllWf (toWrite imageViewAnalysis)) = true := all_at gen_write.1 14 (by decide)
theorem spec_credit : (Contiguous credit && shiftsFrom [] credit && AllWf (toWrite credit)) = true := all_at gen_write.1 15 (by decide)
theorem spec_creditItem : (Contiguous creditItem && shiftsFrom [] creditItem && AllWf (toWrite creditItem)) = true := all_at gen_write.1 16 (by decide)
theorem spec_userGeneral : (Contiguous userGeneral && shiftsFrom [] userGeneral && AllWf (toWrite userGeneral)) = true := all_at gen_write.1 17 (by decide)
theorem spec_userPayeeEndorsement : (Contiguous userPayeeEndorsement && shiftsFrom [] userPayeeEndorsement && AllWf (toWrite userPayeeEndorsement)) = true := all_at gen_write.1 18 (by decide)
theorem spec_bundleControl : (Contiguous bundleControl && shiftsFrom [] bundleControl && AllWf (toWrite bundleControl)) = true := all_at gen_write.1 19 (by decide)
theorem spec_routingNumberSummary : (Contiguous routingNumberSummary && shiftsFrom [] routingNumberSummary && AllWf (toWrite routingNumberSummary)) = true := all_at gen_write.1 20 (by decide)
theorem spec_cashLetterControl : (Contiguous cashLetterControl && shiftsFrom [] cashLetterControl && AllWf (toWrite cashLetterControl)) = true := all_at gen_write.1 21 (by decide)
theorem spec_fileControl : (Contiguous fileControl && shiftsFrom [] fileControl && AllWf (toWrite fileControl)) = true := all_at gen_write.1 22 (by decide)

/-! ## the regenerated write tables ARE the transcribed layout -/

theorem write_tables : Gen.all.map (·.write) = Spec.all.map (fun p => toWrite p.2) := gen_write.2.1

theorem write_fileHeader : Gen.fileHeader.write = toWrite Spec.fileHeader := map_eq_at write_tables 0 (by decide)
theorem write_cashLetterHeader : Gen.cashLetterHeader.write = toWrite Spec.cashLetterHeader := map_eq_at write_tables 1 (by decide)
theorem write_bundleHeader : Gen.bundleHeader.write = toWrite Spec.bundleHeader := map_eq_at write_tables 2 (by decide)
theorem write_checkDetail : Gen.checkDetail.write = toWrite Spec.checkDetail := map_eq_at write_tables 3 (by decide)
theorem write_checkDetailAddendumA : Gen.checkDetailAddendumA.write = toWrite Spec.checkDetailAddendumA := map_eq_at write_tables 4 (by decide)
theorem write_checkDetailAddendumB : Gen.checkDetailAddendumB.write = toWrite Spec.checkDetailAddendumB := map_eq_at write_tables 5 (by decide)
theorem write_checkDetailAddendumC : Gen.checkDetailAddendumC.write = toWrite Spec.checkDetailAddendumC := map_eq_at write_tables 6 (by decide)
theorem write_returnDetail : Gen.returnDetail.write = toWrite Spec.returnDetail := map_eq_at write_tables 7 (by decide)
theorem write_returnDetailAddendumA : Gen.returnDetailAddendumA.write = toWrite Spec.returnDetailAddendumA := map_eq_at write_tables 8 (by decide)
theorem write_returnDetailAddendumB : Gen.returnDetailAddendumB.write = toWrite Spec.returnDetailAddendumB := map_eq_at write_tables 9 (by decide)
theorem write_returnDetailAddendumC : Gen.returnDetailAddendumC.write = toWrite Spec.returnDetailAddendumC := map_eq_at write_tables 10 (by decide)
theorem write_returnDetailAddendumD : Gen.returnDetailAddendumD.write = toWrite Spec.returnDetailAddendumD := map_eq_at write_tables 11 (by decide)
theorem write_imageViewDetail : Gen.imageViewDetail.write = toWrite Spec.imageViewDetail := map_eq_at write_tables 12 (by decide)
theorem write_imageViewData : Gen.imageViewData.write = toWrite Spec.imageViewData := map_eq_at write_tables 13 (by decide)
theorem write_imageViewAnalysis : Gen.imageViewAnalysis.write = toWrite Spec.imageViewAnalysis := map_eq_at write_tables 14 (by decide)
theorem write_credit : Gen.credit.write = toWrite Spec.credit := map_eq_at write_tables 15 (by decide)
theorem write_creditItem : Gen.creditItem.write = toWrite Spec.creditItem := map_eq_at write_tables 16 (by decide)
theorem write_userGeneral : Gen.userGeneral.write = toWrite Spec.userGeneral := map_eq_at write_tables 17 (by decide)
theorem write_userPayeeEndorsement : Gen.userPayeeEndorsement.write = toWrite Spec.userPayeeEndorsement := map_eq_at write_tables 18 (by decide)
theorem write_bundleControl : Gen.bundleControl.write = toWrite Spec.bundleControl := map_eq_at write_tables 19 (by decide)
theorem write_routingNumberSummary : Gen.routingNumberSummary.write = toWrite Spec.routingNumberSummary := map_eq_at write_tables 20 (by decide)
theorem write_cashLetterControl : Gen.cashLetterControl.write = toWrite Spec.cashLetterControl := map_eq_at write_tables 21 (by decide)
theorem write_fileControl : Gen.fileControl.write = toWrite Spec.fileControl := map_eq_at write_tables 22 (by decide)

/-! ## fixed-length records: exact length and exact columns for ALL values -/

theorem len_fixed {ws : List WField} {fs : List SField} {n : Nat} (hw : ws = toWrite fs)
    (hs : (Contiguous fs && shiftsFrom [] fs && AllWf (toWrite fs)) = true)
    (hf : (AllFixed (toWrite fs) && fixedWidth (toWrite fs) == n) = true)
    (b64 : Bytes → Option Bytes) (incl : Bool) (v : Vals) (ht : TypeSet v) : (render b64 ws incl v).length = n := by
  simp only [Bool.and_eq_true, beq_iff_eq] at hs hf
  rw [hw, render_length_fixed b64 _ incl v hs.2 hf.1 ht, hf.2]

theorem cols_fixed {ws : List WField} {fs : List SField} (hw : ws = toWrite fs)
    (hs : (Contiguous fs && shiftsFrom [] fs && AllWf (toWrite fs)) = true) (hf : AllFixed (toWrite fs) = true)
    (b64 : Bytes → Option Bytes) (incl : Bool) (v : Vals) (ht : TypeSet v) (i : Nat) (hi : i < fs.length) :
    ((render b64 ws incl v).drop fs[i].start).take fs[i].width = renderField b64 fs[i].toW v := by
  simp only [Bool.and_eq_true] at hs
  rw [hw]; exact render_columns_fixed b64 fs incl v hs.1.1 hs.2 hf ht i hi

theorem len_fileHeader (b64 : Bytes → Option Bytes) (incl : Bool) (v : Vals) (ht : TypeSet v) :
    (render b64 Gen.fileHeader.write incl v).length = 80 := 
  len_fixed write_fileHeader spec_fileHeader (by decide) b64 incl v ht
theorem cols_fileHeader (b64 : Bytes → Option Bytes) (incl : Bool) (v : Vals) (ht : TypeSet v)
    (i : Nat) (hi : i < Spec.fileHeader.length) :
    ((render b64 Gen.fileHeader.write incl v).drop Spec.fileHeader[i].start).take Spec.fileHeader[i].width
      = renderField b64 Spec.fileHeader[i].toW v := 
  cols_fixed write_fileHeader spec_fileHeader (by decide) b64 incl v ht i hi

theorem len_cashLetterHeader (b64 : Bytes → Option Bytes) (incl : Bool) (v : Vals) (ht : TypeSet v) :
    (render b64 Gen.cashLetterHeader.write incl v).length = 80 := 
  len_fixed write_cashLetterHeader spec_cashLetterHeader (by decide) b64 incl v ht
theorem cols_cashLetterHeader (b64 : Bytes → Option Bytes) (incl : Bool) (v : Vals) (ht : TypeSet v)
    (i : Nat) (hi : i < Spec.cashLetterHeader.length) :
    ((render b64 Gen.cashLetterHeader.write incl v).drop Spec.cashLetterHeader[i].start).take Spec.cashLetterHeader[i].width
      = renderField b64 Spec.cashLetterHeader[i].toW v := 
  cols_fixed write_cashLetterHeader spec_cashLetterHeader (by decide) b64 incl v ht i hi

theorem len_bundleHeader (b64 : Bytes → Option Bytes) (incl : Bool) (v : Vals) (ht : TypeSet v) :
    (render b64 Gen.bundleHeader.write incl v).length = 80 := 
  len_fixed write_bundleHeader spec_bundleHeader (by decide) b64 incl v ht
theorem cols_bundleHeader (b64 : Bytes → Option Bytes) (incl : Bool) (v : Vals) (ht : TypeSet v)
    (i : Nat) (hi : i < Spec.bundleHeader.length) :
    ((render b64 Gen.bundleHeader.write incl v).drop Spec.bundleHeader[i].start).take Spec.bundleHeader[i].width
      = renderField b64 Spec.bundleHeader[i].toW v := 
  cols_fixed write_bundleHeader spec_bundleHeader (by decide) b64 incl v ht i hi

theorem len_checkDetail (b64 : Bytes → Option Bytes) (incl : Bool) (v : Vals) (ht : TypeSet v) :
    (render b64 Gen.checkDetail.write incl v).length = 80 := 
  len_fixed write_checkDetail spec_checkDetail (by decide) b64 incl v ht
theorem cols_checkDetail (b64 : Bytes → Option Bytes) (incl : Bool) (v : Vals) (ht : TypeSet v)
    (i : Nat) (hi : i < Spec.checkDetail.length) :
    ((render b64 Gen.checkDetail.write incl v).drop Spec.checkDetail[i].start).take Spec.checkDetail[i].width
      = renderField b64 Spec.checkDetail[i].toW v := 
  cols_fixed write_checkDetail spec_checkDetail (by decide) b64 incl v ht i hi

theorem len_checkDetailAddendumA (b64 : Bytes → Option Bytes) (incl : Bool) (v : Vals) (ht : TypeSet v) :
    (render b64 Gen.checkDetailAddendumA.write incl v).length = 80 := 
  len_fixed write_checkDetailAddendumA spec_checkDetailAddendumA (by decide) b64 incl v ht
theorem cols_checkDetailAddendumA (b64 : Bytes → Option Bytes) (incl : Bool) (v : Vals) (ht : TypeSet v)
    (i : Nat) (hi : i < Spec.checkDetailAddendumA.length) :
    ((render b64 Gen.checkDetailAddendumA.write incl v).drop Spec.checkDetailAddendumA[i].start).take Spec.checkDetailAddendumA[i].width
      = renderField b64 Spec.checkDetailAddendumA[i].toW v := 
  cols_fixed write_checkDetailAddendumA spec_checkDetailAddendumA (by decide) b64 incl v ht i hi

theorem len_checkDetailAddendumC (b64 : Bytes → Option Bytes) (incl : Bool) (v : Vals) (ht : TypeSet v) :
    (render b64 Gen.checkDetailAddendumC.write incl v).length = 80 := 
  len_fixed write_checkDetailAddendumC spec_checkDetailAddendumC (by decide) b64 incl v ht
theorem cols_checkDetailAddendumC (b64 : Bytes → Option Bytes) (incl : Bool) (v : Vals) (ht : TypeSet v)
    (i : Nat) (hi : i < Spec.checkDetailAddendumC.length) :
    ((render b64 Gen.checkDetailAddendumC.write incl v).drop Spec.checkDetailAddendumC[i].start).take Spec.checkDetailAddendumC[i].width
      = renderField b64 Spec.checkDetailAddendumC[i].toW v := 
  cols_fixed write_checkDetailAddendumC spec_checkDetailAddendumC (by decide) b64 incl v ht i hi

theorem len_returnDetail (b64 : Bytes → Option Bytes) (incl : Bool) (v : Vals) (ht : TypeSet v) :
    (render b64 Gen.returnDetail.write incl v).length = 80 := 
  len_fixed write_returnDetail spec_returnDetail (by decide) b64 incl v ht
theorem cols_returnDetail (b64 : Bytes → Option Bytes) (incl : Bool) (v : Vals) (ht : TypeSet v)
    (i : Nat) (hi : i < Spec.returnDetail.length) :
    ((render b64 Gen.returnDetail.write incl v).drop Spec.returnDetail[i].start).take Spec.returnDetail[i].width
      = renderField b64 Spec.returnDetail[i].toW v := 
  cols_fixed write_returnDetail spec_returnDetail (by decide) b64 incl v ht i hi

theorem len_returnDetailAddendumA (b64 : Bytes → Option Bytes) (incl : Bool) (v : Vals) (ht : TypeSet v) :
    (render b64 Gen.returnDetailAddendumA.write incl v).length = 80 := 
  len_fixed write_returnDetailAddendumA spec_returnDetailAddendumA (by decide) b64 incl v ht
theorem cols_returnDetailAddendumA (b64 : Bytes → Option Bytes) (incl : Bool) (v : Vals) (ht : TypeSet v)
    (i : Nat) (hi : i < Spec.returnDetailAddendumA.length) :
    ((render b64 Gen.returnDetailAddendumA.write incl v).drop Spec.returnDetailAddendumA[i].start).take Spec.returnDetailAddendumA[i].width
      = renderField b64 Spec.returnDetailAddendumA[i].toW v := 
  cols_fixed write_returnDetailAddendumA spec_returnDetailAddendumA (by decide) b64 incl v ht i hi

theorem len_returnDetailAddendumB (b64 : Bytes → Option Bytes) (incl : Bool) (v : Vals) (ht : TypeSet v) :
    (render b64 Gen.returnDetailAddendumB.write incl v).length = 80 := 
  len_fixed write_returnDetailAddendumB spec_returnDetailAddendumB (by decide) b64 incl v ht
theorem cols_returnDetailAddendumB (b64 : Bytes → Option Bytes) (incl : Bool) (v : Vals) (ht : TypeSet v)
    (i : Nat) (hi : i < Spec.returnDetailAddendumB.length) :
    ((render b64 Gen.returnDetailAddendumB.write incl v).drop Spec.returnDetailAddendumB[i].start).take Spec.returnDetailAddendumB[i].width
      = renderField b64 Spec.returnDetailAddendumB[i].toW v := 
  cols_fixed write_returnDetailAddendumB spec_returnDetailAddendumB (by decide) b64 incl v ht i hi

theorem len_returnDetailAddendumD (b64 : Bytes → Option Bytes) (incl : Bool) (v : Vals) (ht : TypeSet v) :
    (render b64 Gen.returnDetailAddendumD.write incl v).length = 80 := 
  len_fixed write_returnDetailAddendumD spec_returnDetailAddendumD (by decide) b64 incl v ht
theorem cols_returnDetailAddendumD (b64 : Bytes → Option Bytes) (incl : Bool) (v : Vals) (ht : TypeSet v)
    (i : Nat) (hi : i < Spec.returnDetailAddendumD.length) :
    ((render b64 Gen.returnDetailAddendumD.write incl v).drop Spec.returnDetailAddendumD[i].start).take Spec.returnDetailAddendumD[i].width
      = renderField b64 Spec.returnDetailAddendumD[i].toW v := 
  cols_fixed write_returnDetailAddendumD spec_returnDetailAddendumD (by decide) b64 incl v ht i hi

theorem len_imageViewDetail (b64 : Bytes → Option Bytes) (incl : Bool) (v : Vals) (ht : TypeSet v) :
    (render b64 Gen.imageViewDetail.write incl v).length = 80 := 
  len_fixed write_imageViewDetail spec_imageViewDetail (by decide) b64 incl v ht
theorem cols_imageViewDetail (b64 : Bytes → Option Bytes) (incl : Bool) (v : Vals) (ht : TypeSet v)
    (i : Nat) (hi : i < Spec.imageViewDetail.length) :
    ((render b64 Gen.imageViewDetail.write incl v).drop Spec.imageViewDetail[i].start).take Spec.imageViewDetail[i].width
      = renderField b64 Spec.imageViewDetail[i].toW v := 
  cols_fixed write_imageViewDetail spec_imageViewDetail (by decide) b64 incl v ht i hi

theorem len_imageViewAnalysis (b64 : Bytes → Option Bytes) (incl : Bool) (v : Vals) (ht : TypeSet v) :
    (render b64 Gen.imageViewAnalysis.write incl v).length = 80 := 
  len_fixed write_imageViewAnalysis spec_imageViewAnalysis (by decide) b64 incl v ht
theorem cols_imageViewAnalysis (b64 : Bytes → Option Bytes) (incl : Bool) (v : Vals) (ht : TypeSet v)
    (i : Nat) (hi : i < Spec.imageViewAnalysis.length) :
    ((render b64 Gen.imageViewAnalysis.write incl v).drop Spec.imageViewAnalysis[i].start).take Spec.imageViewAnalysis[i].width
      = renderField b64 Spec.imageViewAnalysis[i].toW v := 
  cols_fixed write_imageViewAnalysis spec_imageViewAnalysis (by decide) b64 incl v ht i hi

theorem len_credit (b64 : Bytes → Option Bytes) (incl : Bool) (v : Vals) (ht : TypeSet v) :
    (render b64 Gen.credit.write incl v).length = 80 := 
  len_fixed write_credit spec_credit (by decide) b64 incl v ht
theorem cols_credit (b64 : Bytes → Option Bytes) (incl : Bool) (v : Vals) (ht : TypeSet v)
    (i : Nat) (hi : i < Spec.credit.length) :
    ((render b64 Gen.credit.write incl v).drop Spec.credit[i].start).take Spec.credit[i].width
      = renderField b64 Spec.credit[i].toW v := 
  cols_fixed write_credit spec_credit (by decide) b64 incl v ht i hi

theorem len_creditItem (b64 : Bytes → Option Bytes) (incl : Bool) (v : Vals) (ht : TypeSet v) :
    (render b64 Gen.creditItem.write incl v).length = 100 := 
  len_fixed write_creditItem spec_creditItem (by decide) b64 incl v ht
theorem cols_creditItem (b64 : Bytes → Option Bytes) (incl : Bool) (v : Vals) (ht : TypeSet v)
    (i : Nat) (hi : i < Spec.creditItem.length) :
    ((render b64 Gen.creditItem.write incl v).drop Spec.creditItem[i].start).take Spec.creditItem[i].width
      = renderField b64 Spec.creditItem[i].toW v := 
  cols_fixed write_creditItem spec_creditItem (by decide) b64 incl v ht i hi

theorem len_userPayeeEndorsement (b64 : Bytes → Option Bytes) (incl : Bool) (v : Vals) (ht : TypeSet v) :
    (render b64 Gen.userPayeeEndorsement.write incl v).length = 335 := 
  len_fixed write_userPayeeEndorsement spec_userPayeeEndorsement (by decide) b64 incl v ht
theorem cols_userPayeeEndorsement (b64 : Bytes → Option Bytes) (incl : Bool) (v : Vals) (ht : TypeSet v)
    (i : Nat) (hi : i < Spec.userPayeeEndorsement.length) :
    ((render b64 Gen.userPayeeEndorsement.write incl v).drop Spec.userPayeeEndorsement[i].start).take Spec.userPayeeEndorsement[i].width
      = renderField b64 Spec.userPayeeEndorsement[i].toW v := 
  cols_fixed write_userPayeeEndorsement spec_userPayeeEndorsement (by decide) b64 incl v ht i hi

theorem len_bundleControl (b64 : Bytes → Option Bytes) (incl : Bool) (v : Vals) (ht : TypeSet v) :
    (render b64 Gen.bundleControl.write incl v).length = 80 := 
  len_fixed write_bundleControl spec_bundleControl (by decide) b64 incl v ht
theorem cols_bundleControl (b64 : Bytes → Option Bytes) (incl : Bool) (v : Vals) (ht : TypeSet v)
    (i : Nat) (hi : i < Spec.bundleControl.length) :
    ((render b64 Gen.bundleControl.write incl v).drop Spec.bundleControl[i].start).take Spec.bundleControl[i].width
      = renderField b64 Spec.bundleControl[i].toW v := 
  cols_fixed write_bundleControl spec_bundleControl (by decide) b64 incl v ht i hi

theorem len_routingNumberSummary (b64 : Bytes → Option Bytes) (incl : Bool) (v : Vals) (ht : TypeSet v) :
    (render b64 Gen.routingNumberSummary.write incl v).length = 80 := 
  len_fixed write_routingNumberSummary spec_routingNumberSummary (by decide) b64 incl v ht
theorem cols_routingNumberSummary (b64 : Bytes → Option Bytes) (incl : Bool) (v : Vals) (ht : TypeSet v)
    (i : Nat) (hi : i < Spec.routingNumberSummary.length) :
    ((render b64 Gen.routingNumberSummary.write incl v).drop Spec.routingNumberSummary[i].start).take Spec.routingNumberSummary[i].width
      = renderField b64 Spec.routingNumberSummary[i].toW v := 
  cols_fixed write_routingNumberSummary spec_routingNumberSummary (by decide) b64 incl v ht i hi

theorem len_cashLetterControl (b64 : Bytes → Option Bytes) (incl : Bool) (v : Vals) (ht : TypeSet v) :
    (render b64 Gen.cashLetterControl.write incl v).length = 80 := 
  len_fixed write_cashLetterControl spec_cashLetterControl (by decide) b64 incl v ht
theorem cols_cashLetterControl (b64 : Bytes → Option Bytes) (incl : Bool) (v : Vals) (ht : TypeSet v)
    (i : Nat) (hi : i < Spec.cashLetterControl.length) :
    ((render b64 Gen.cashLetterControl.write incl v).drop Spec.cashLetterControl[i].start).take Spec.cashLetterControl[i].width
      = renderField b64 Spec.cashLetterControl[i].toW v := 
  cols_fixed write_cashLetterControl spec_cashLetterControl (by decide) b64 incl v ht i hi

theorem len_fileControl (b64 : Bytes → Option Bytes) (incl : Bool) (v : Vals) (ht : TypeSet v) :
    (render b64 Gen.fileControl.write incl v).length = 80 := 
  len_fixed write_fileControl spec_fileControl (by decide) b64 incl v ht
theorem cols_fileControl (b64 : Bytes → Option Bytes) (incl : Bool) (v : Vals) (ht : TypeSet v)
    (i : Nat) (hi : i < Spec.fileControl.length) :
    ((render b64 Gen.fileControl.write incl v).drop Spec.fileControl[i].start).take Spec.fileControl[i].width
      = renderField b64 Spec.fileControl[i].toW v := 
  cols_fixed write_fileControl spec_fileControl (by decide) b64 incl v ht i hi


/-! ## records with variable sections (27, 34, 52, 68): 46+K, 117+K+S+I, and shifted columns -/

/-- size of the variable section governed by length field `lf`: the value of the length field when it
is a valid size (0 < n < 10^8), otherwise the section is empty -/
def K (v : Vals) (lf : String) : Nat := (varWidth v lf).getD 0

theorem len_checkDetailAddendumB (b64 : Bytes → Option Bytes) (incl : Bool) (v : Vals) (ht : TypeSet v) :
    (render b64 Gen.checkDetailAddendumB.write incl v).length = 46 + K v "LengthImageReferenceKey" := by
  rw [write_checkDetailAddendumB, render_length b64 _ incl v (Bool.and_eq_true_iff.1 spec_checkDetailAddendumB).2 ht]
  simp [sumLen, lenOf, Spec.checkDetailAddendumB, toWrite, SField.toW, K]
  omega

theorem len_returnDetailAddendumC (b64 : Bytes → Option Bytes) (incl : Bool) (v : Vals) (ht : TypeSet v) :
    (render b64 Gen.returnDetailAddendumC.write incl v).length = 46 + K v "LengthImageReferenceKey" := by
  rw [write_returnDetailAddendumC, render_length b64 _ incl v (Bool.and_eq_true_iff.1 spec_returnDetailAddendumC).2 ht]
  simp [sumLen, lenOf, Spec.returnDetailAddendumC, toWrite, SField.toW, K]
  omega

theorem len_userGeneral (b64 : Bytes → Option Bytes) (incl : Bool) (v : Vals) (ht : TypeSet v) :
    (render b64 Gen.userGeneral.write incl v).length = 45 + K v "LengthUserData" := by
  rw [write_userGeneral, render_length b64 _ incl v (Bool.and_eq_true_iff.1 spec_userGeneral).2 ht]
  simp [sumLen, lenOf, Spec.userGeneral, toWrite, SField.toW, K]
  omega

theorem len_imageViewData_sections (b64 : Bytes → Option Bytes) (incl : Bool) (v : Vals) (ht : TypeSet v) :
    (render b64 Gen.imageViewData.write incl v).length = 117 + sumLen b64 incl v
      [Spec.imageViewData[14].toW, Spec.imageViewData[16].toW, Spec.imageViewData[18].toW] := by
  have hwf : AllWf (toWrite Spec.imageViewData) = true := (Bool.and_eq_true_iff.1 spec_imageViewData).2
  rw [write_imageViewData, render_length b64 _ incl v hwf ht, sumLen_filter b64 _ incl v hwf (by decide)]
  rfl

/-- 117 + K + S + I; `I` is the decoded length when the image data is base64 text (documented
decode-on-write), else the value of the image length field -/
theorem len_imageViewData (b64 : Bytes → Option Bytes) (v : Vals) (ht : TypeSet v) :
    (render b64 Gen.imageViewData.write true v).length =
      117 + K v "LengthImageReferenceKey" + K v "LengthDigitalSignature" +
        (match b64 (v.s "ImageData") with
          | some dec => dec.length
          | none => K v "LengthImageData") := by
  rw [len_imageViewData_sections b64 true v ht]
  cases hb : b64 (v.s "ImageData") <;>
    simp [sumLen, lenOf, Spec.imageViewData, SField.toW, K, hb] <;> omega

/-- `toString(false)`, the part of record 52 that the EBCDIC writer transliterates -/
theorem len_imageViewData_noImage (b64 : Bytes → Option Bytes) (v : Vals) (ht : TypeSet v) :
    (render b64 Gen.imageViewData.write false v).length =
      117 + K v "LengthImageReferenceKey" + K v "LengthDigitalSignature" := by
  rw [len_imageViewData_sections b64 false v ht]
  simp [sumLen, lenOf, Spec.imageViewData, SField.toW, K]
  omega

theorem cols_var {ws : List WField} {fs : List SField} (hw : ws = toWrite fs)
    (hs : (Contiguous fs && shiftsFrom [] fs && AllWf (toWrite fs)) = true) (hio : FixedNotImage (toWrite fs) = true)
    (b64 : Bytes → Option Bytes) (incl : Bool) (v : Vals) (ht : TypeSet v) (i : Nat) (hi : i < fs.length) :
    ((render b64 ws incl v).drop (fs[i].start + sumLen b64 incl v (sectionsBefore fs i))).take
      (fieldBytes b64 incl fs[i].toW v).length = fieldBytes b64 incl fs[i].toW v := by
  simp only [Bool.and_eq_true] at hs
  rw [hw]; exact render_columns_var b64 fs incl v hs.1.1 hs.2 hio ht i hi

theorem cols_checkDetailAddendumB (b64 : Bytes → Option Bytes) (incl : Bool) (v : Vals) (ht : TypeSet v)
    (i : Nat) (hi : i < Spec.checkDetailAddendumB.length) :
    ((render b64 Gen.checkDetailAddendumB.write incl v).drop
        (Spec.checkDetailAddendumB[i].start + sumLen b64 incl v (sectionsBefore Spec.checkDetailAddendumB i))).take
      (fieldBytes b64 incl Spec.checkDetailAddendumB[i].toW v).length
      = fieldBytes b64 incl Spec.checkDetailAddendumB[i].toW v :=
  cols_var write_checkDetailAddendumB spec_checkDetailAddendumB (by decide) b64 incl v ht i hi

theorem cols_returnDetailAddendumC (b64 : Bytes → Option Bytes) (incl : Bool) (v : Vals) (ht : TypeSet v)
    (i : Nat) (hi : i < Spec.returnDetailAddendumC.length) :
    ((render b64 Gen.returnDetailAddendumC.write incl v).drop
        (Spec.returnDetailAddendumC[i].start + sumLen b64 incl v (sectionsBefore Spec.returnDetailAddendumC i))).take
      (fieldBytes b64 incl Spec.returnDetailAddendumC[i].toW v).length
      = fieldBytes b64 incl Spec.returnDetailAddendumC[i].toW v :=
  cols_var write_returnDetailAddendumC spec_returnDetailAddendumC (by decide) b64 incl v ht i hi

theorem cols_imageViewData (b64 : Bytes → Option Bytes) (incl : Bool) (v : Vals) (ht : TypeSet v)
    (i : Nat) (hi : i < Spec.imageViewData.length) :
    ((render b64 Gen.imageViewData.write incl v).drop
        (Spec.imageViewData[i].start + sumLen b64 incl v (sectionsBefore Spec.imageViewData i))).take
      (fieldBytes b64 incl Spec.imageViewData[i].toW v).length
      = fieldBytes b64 incl Spec.imageViewData[i].toW v :=
  cols_var write_imageViewData spec_imageViewData (by decide) b64 incl v ht i hi

theorem cols_userGeneral (b64 : Bytes → Option Bytes) (incl : Bool) (v : Vals) (ht : TypeSet v)
    (i : Nat) (hi : i < Spec.userGeneral.length) :
    ((render b64 Gen.userGeneral.write incl v).drop
        (Spec.userGeneral[i].start + sumLen b64 incl v (sectionsBefore Spec.userGeneral i))).take
      (fieldBytes b64 incl Spec.userGeneral[i].toW v).length
      = fieldBytes b64 incl Spec.userGeneral[i].toW v :=
  cols_var write_userGeneral spec_userGeneral (by decide) b64 incl v ht i hi

/-! ## frame: every Go field is read by exactly one entry, so changing one field changes only that
entry's bytes (a length field additionally sizes the section it governs) -/

def readsExcept (ws : List WField) (i : Nat) : List String :=
  ((ws.take i) ++ (ws.drop (i+1))).flatMap (fun f => [f.src, f.lenField])

/-- no entry's source is read by another entry as its source -/
def SrcUnique (ws : List WField) : Bool :=
  (List.range ws.length).all (fun i => !(ws.take i ++ ws.drop (i+1)).any (fun g => g.src == (ws.getD i default).src))

theorem srcUnique_of_nodup (ws : List WField) (h : (ws.map (·.src)).Nodup) : SrcUnique ws = true := by
  simp only [SrcUnique, List.all_eq_true, List.mem_range, Bool.not_eq_true', List.any_eq_false, beq_iff_eq,
    ← List.eraseIdx_eq_take_drop_succ, List.mem_eraseIdx_iff_getElem]
  intro i hi g ⟨j, hj, hne, hg⟩ hsrc
  rw [← hg, List.getD_eq_getElem?_getD, List.getElem?_eq_getElem hi, Option.getD_some] at hsrc
  exact hne ((List.getElem_inj (h₀ := by rwa [List.length_map]) (h₁ := by rwa [List.length_map]) h).1
    (by rwa [List.getElem_map, List.getElem_map]))

theorem frame_tables : Gen.all.all (fun L => SrcUnique L.write) = true :=
  List.all_eq_true.2 fun L hL => srcUnique_of_nodup _ (of_decide_eq_true (List.all_eq_true.1 gen_write.2.2 L hL))

/-- non-vacuity of `TypeSet` and of the hypotheses above: a concrete record -/
example : TypeSet ({ s := fun k => if k = "recordType" then [0x30, 0x31] else [] } : Vals) := by
  simp [TypeSet]

end Icl.C02
