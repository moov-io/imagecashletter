/-
C19 — FRB compatibility mode only relaxes the reader.

Validation level (proved, for every record value): `Mono` is a decidable syntactic criterion on rule
trees — every use of the mode is either "reject only when the mode is off", "when on, normalise a
value that the mode-off path rejects", or absent — and `mono_sound` shows that a record accepted with
the mode off is accepted with it on and ends up identical.  `decide` establishes `Mono` for the rule
tree regenerated from every record's Validate().
Reader level (proved, for every input): `Relaxes m0 m1` (Lemmas/Relax.lean) abstracts what the mode
changes - a validator that accepts at least as much with the same outcome, and a byte substitution the
mode-off reader never applies.  `gen_relaxes` establishes it for the regenerated model (mode off vs
mode on) from `Mono`; `C19_read_relaxes` lifts it through the whole reader: an input read without error
with the mode off is read without error with the mode on, into the same file.  For ASCII input there is
no further hypothesis (`C19_read_relaxes_ascii`); for EBCDIC input the hypothesis is that no addendum A
line contains one of the three substituted bytes (`NoSubst`) - with such a byte the two modes decode
different characters by design (that is the mode's purpose), so the statement cannot hold there; both
modes are run on every generated input by the correspondence stream.
-/
import IclModel.Lemmas.Frb
import IclModel.Lemmas.Relax
import IclModel.GenModel
namespace Icl.C19
open Icl

/-- every regenerated rule tree (those the reader validates and the two user records) is `Mono` -/
theorem allRules_mono : Gen.allRules.all (fun p => Mono Gen.codes p.2) = true := by decide +kernel

/-- the index is the position in `Gen.allRules`; 17 and 18 are the two user records, which the reader does
not validate -/
theorem mono_at (i : Nat) (h : i < Gen.allRules.length) : Mono Gen.codes Gen.allRules[i].2 = true :=
  List.all_eq_true.mp allRules_mono _ (List.getElem_mem h)

theorem mono_fileHeader : Mono Gen.codes Gen.Rules.fileHeader = true := mono_at 0 (by decide)
theorem mono_cashLetterHeader : Mono Gen.codes Gen.Rules.cashLetterHeader = true := mono_at 1 (by decide)
theorem mono_bundleHeader : Mono Gen.codes Gen.Rules.bundleHeader = true := mono_at 2 (by decide)
theorem mono_checkDetail : Mono Gen.codes Gen.Rules.checkDetail = true := mono_at 3 (by decide)
theorem mono_checkDetailAddendumA : Mono Gen.codes Gen.Rules.checkDetailAddendumA = true := mono_at 4 (by decide)
theorem mono_checkDetailAddendumB : Mono Gen.codes Gen.Rules.checkDetailAddendumB = true := mono_at 5 (by decide)
theorem mono_checkDetailAddendumC : Mono Gen.codes Gen.Rules.checkDetailAddendumC = true := mono_at 6 (by decide)
theorem mono_returnDetail : Mono Gen.codes Gen.Rules.returnDetail = true := mono_at 7 (by decide)
theorem mono_returnDetailAddendumA : Mono Gen.codes Gen.Rules.returnDetailAddendumA = true := mono_at 8 (by decide)
theorem mono_returnDetailAddendumB : Mono Gen.codes Gen.Rules.returnDetailAddendumB = true := mono_at 9 (by decide)
theorem mono_returnDetailAddendumC : Mono Gen.codes Gen.Rules.returnDetailAddendumC = true := mono_at 10 (by decide)
theorem mono_returnDetailAddendumD : Mono Gen.codes Gen.Rules.returnDetailAddendumD = true := mono_at 11 (by decide)
theorem mono_imageViewDetail : Mono Gen.codes Gen.Rules.imageViewDetail = true := mono_at 12 (by decide)
theorem mono_imageViewData : Mono Gen.codes Gen.Rules.imageViewData = true := mono_at 13 (by decide)
theorem mono_imageViewAnalysis : Mono Gen.codes Gen.Rules.imageViewAnalysis = true := mono_at 14 (by decide)
theorem mono_credit : Mono Gen.codes Gen.Rules.credit = true := mono_at 15 (by decide)
theorem mono_creditItem : Mono Gen.codes Gen.Rules.creditItem = true := mono_at 16 (by decide)
theorem mono_bundleControl : Mono Gen.codes Gen.Rules.bundleControl = true := mono_at 19 (by decide)
theorem mono_routingNumberSummary : Mono Gen.codes Gen.Rules.routingNumberSummary = true := mono_at 20 (by decide)
theorem mono_cashLetterControl : Mono Gen.codes Gen.Rules.cashLetterControl = true := mono_at 21 (by decide)
theorem mono_fileControl : Mono Gen.codes Gen.Rules.fileControl = true := mono_at 22 (by decide)

/-- every record kind the reader validates -/
def readRules : List Stmt := [Gen.Rules.fileHeader, Gen.Rules.cashLetterHeader, Gen.Rules.bundleHeader, Gen.Rules.checkDetail, Gen.Rules.checkDetailAddendumA, Gen.Rules.checkDetailAddendumB, Gen.Rules.checkDetailAddendumC, Gen.Rules.returnDetail, Gen.Rules.returnDetailAddendumA, Gen.Rules.returnDetailAddendumB, Gen.Rules.returnDetailAddendumC, Gen.Rules.returnDetailAddendumD, Gen.Rules.imageViewDetail, Gen.Rules.imageViewData, Gen.Rules.imageViewAnalysis, Gen.Rules.credit, Gen.Rules.creditItem, Gen.Rules.bundleControl, Gen.Rules.routingNumberSummary, Gen.Rules.cashLetterControl, Gen.Rules.fileControl]

theorem all_mono : readRules.all (Mono Gen.codes) = true := by
  simp only [readRules, List.all_cons, List.all_nil, Bool.and_self, mono_fileHeader, mono_cashLetterHeader,
    mono_bundleHeader, mono_checkDetail, mono_checkDetailAddendumA, mono_checkDetailAddendumB, mono_checkDetailAddendumC,
    mono_returnDetail, mono_returnDetailAddendumA, mono_returnDetailAddendumB, mono_returnDetailAddendumC,
    mono_returnDetailAddendumD, mono_imageViewDetail, mono_imageViewData, mono_imageViewAnalysis, mono_credit,
    mono_creditItem, mono_bundleControl, mono_routingNumberSummary, mono_cashLetterControl, mono_fileControl]

/-- **C19, record level**: for every record kind and EVERY record value, acceptance with the mode off
implies acceptance with the mode on, with the same resulting record (no normalisation changes an
accepted record) -/
theorem validate_relaxes (cx : VCtx) (hc : cx.codes = Gen.codes) (s : Stmt) (hs : s ∈ readRules) (v v' : Vals)
    (hoff : validate (cx.withFrb false) s v = (none, v')) : validate (cx.withFrb true) s v = (none, v') :=
  validate_mono cx s v v' (hc ▸ List.all_eq_true.mp all_mono s hs) hoff

/-- with the mode off its lenient paths are unreachable: the normalising assignments of a `Mono` tree
sit under a condition that is false with the mode off (stated on the two trees that have any) -/
theorem off_never_normalises :
    ((sites Gen.Rules.checkDetailAddendumA ++ sites Gen.Rules.imageViewDetail).all fun s =>
      s.assign.isNone || s.path.any fun p => (p.1 == .frb && p.2) ||
        (match p.1 with | .and _ .frb => p.2 | _ => false)) = true := by decide

/-- a validator built from `Mono` rule trees relaxes when the mode is switched on -/
theorem treeValidator_relaxes (layouts : List RecLayout) (rules : List (String × Stmt)) (codes : Codes)
    (b64 : Bytes → Option Bytes) (hm : rules.all (fun p => Mono codes p.2) = true) (n : String) (v v' : Vals)
    (h : treeValidator layouts rules codes b64 false n v = (none, v')) :
    treeValidator layouts rules codes b64 true n v = (none, v') := by
  unfold treeValidator at h ⊢
  cases hf : rules.find? (fun p => p.1 == n) with
  | none => simp [hf] at h
  | some p =>
    simp only [hf] at h ⊢
    exact validate_mono { codes := codes, write := _, b64 := b64, frb := true } p.2 v v'
      (List.all_eq_true.mp hm p (List.mem_of_find?_eq_some hf)) h

theorem gen_relaxes (now : Date) : Relaxes (genModel false now) (genModel true now) where
  layouts := rfl
  cm := rfl
  now := rfl
  frb0 := rfl
  val := fun k v v' h => treeValidator_relaxes Gen.all Gen.allRules Gen.codes b64Go allRules_mono k.goName v v' h

def linesOf (e : Enc) (x : Bytes) : List Bytes := (if e.lp then splitLP x else (splitNL x, true)).1

/-- **C19, reader level**: an input read without error by `m0` is read without error by any `m1` that
relaxes it, into the same file (hypothesis for EBCDIC input: `NoSubst` on every line) -/
theorem C19_read_relaxes (m0 m1 : Model) (hR : Relaxes m0 m1) (e : Enc) (x : Bytes) (f : File Vals)
    (hs : ∀ l ∈ linesOf e x, NoSubst m1 e l)
    (h : readFile m0 e x = (f, none)) : readFile m1 e x = (f, none) := by
  obtain ⟨sf, hr, hclean, ⟨d1, d2, d3⟩, rfl⟩ := (C01.readFile_ok_iff m0 e x f).1 h
  have hinit : Eqv (initState m0) (initState m1) := by
    refine ⟨rfl, ?_, rfl, rfl, rfl⟩
    simp [initState, hR.layout, hR.now]
  obtain ⟨tf, ht, hc, c1, c2, c3, c4⟩ := hR.readLines e _ hs _ sf _ hinit hr
  have hcur : tf.cur = sf.cur := congrArg C04.Core.cur hc
  have hcl : tf.cashLetters = sf.cashLetters := congrArg C04.Core.cashLetters hc
  exact (C01.readFile_ok_iff m1 e x _).2 ⟨tf, ht, hclean, ⟨c3 ▸ d1, c2 ▸ d2, hcur ▸ d3⟩, by simp only [RState.file, c1, c2, hcl]⟩

/-- **C19 for ASCII input**, no further hypothesis -/
theorem C19_read_relaxes_ascii (m0 m1 : Model) (hR : Relaxes m0 m1) (e : Enc) (he : e.ebcdic = false) (x : Bytes)
    (f : File Vals) (h : readFile m0 e x = (f, none)) : readFile m1 e x = (f, none) :=
  C19_read_relaxes m0 m1 hR e x f (fun l _ => noSubst_ascii m1 e he l) h

/-- **C19 for the regenerated model**: every ASCII input the current reader accepts with the mode off
it accepts with the mode on, and decodes to the same file -/
theorem C19_gen_ascii (now : Date) (e : Enc) (he : e.ebcdic = false) (x : Bytes) (f : File Vals)
    (h : readFile (genModel false now) e x = (f, none)) : readFile (genModel true now) e x = (f, none) :=
  C19_read_relaxes_ascii _ _ (gen_relaxes now) e he x f h

/-- **C19 for the regenerated model, EBCDIC input** whose addendum A lines contain none of the bytes the
mode substitutes -/
theorem C19_gen_ebcdic (now : Date) (e : Enc) (x : Bytes) (f : File Vals)
    (hs : ∀ l ∈ linesOf e x, kindOfLine l = some .cdAddA → ∀ b ∈ l, b ≠ 0xAD ∧ b ≠ 0xBD ∧ b ≠ 0x5F)
    (h : readFile (genModel false now) e x = (f, none)) : readFile (genModel true now) e x = (f, none) :=
  C19_read_relaxes _ _ (gen_relaxes now) e x f (fun l hl hk _ _ => C01.ibm1047_id true l (hs l hl hk)) h

end Icl.C19
