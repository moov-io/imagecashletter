/-
C15 — JSON is a lossless, interchangeable carrier of a file.

Table obligations on the regenerated server schema: within every struct the JSON member names are
distinct even case-insensitively (encoding/json's matching rule), so no member can capture another's
value on decode; every exported member of a record that the X9 layout writes has a JSON member (no
field is reachable through X9 but not through JSON).  The rebuild that FileFromJSON performs
(File.Create) keeps the caller-settable members of the control records: model theorems
`bundle_keeps_user_members`.  The end-to-end round trip (Marshal → FileFromJSON → compare members and
X9 bytes in four encodings) is checked on generated fully-populated files.
-/
import IclModel.Gen.SchemaTables
import IclModel.Gen.Layouts
import IclModel.Lemmas.BuildIdem
namespace Icl.C15
open Icl

def noDup : List String → Bool
  | [] => true
  | x :: r => !r.contains x && noDup r

/-- no two members of a struct can be confused by encoding/json's case-insensitive matching -/
theorem member_names_distinct : (Gen.serverSchema.all fun p => noDup (p.2.map (·.jsonLower))) = true := by
  decide +kernel

/-- every exported field that a record's X9 layout writes is also a JSON member of that record -/
theorem layout_fields_have_json :
    (Gen.all.all fun L =>
      match Gen.serverSchema.get L.name with
      | none => false
      | some ms => L.write.all fun w =>
          w.conv == .lit || ["reserved", "reservedTwo", "reservedThree"].contains w.src || ms.any fun m => m.go == w.src) = true := by decide +kernel

@[simp] theorem setS_s (v : Vals) (k k' : String) (x : Bytes) : (v.setS k x).s k' = if k' = k then x else v.s k' := rfl
@[simp] theorem setI_s (v : Vals) (k k' : String) (x : Int) : (v.setI k x).s k' = v.s k' := rfl

/-- the rebuild keeps the bundle control's caller-settable members (ID, UserField) -/
theorem bundle_keeps_user_members (m : Model) (b b' : Bundle Vals) (old : Vals) (ho : b.control = some old)
    (h : bundleBuild m b = .ok b') :
    ∃ bc, b'.control = some bc ∧ bc.s "UserField" = old.s "UserField" ∧ bc.s "ID" = old.s "ID" := by
  have hb := bundleBuild_ok m b b' h
  subst hb
  exact ⟨_, rfl, (C17.bundleControlOf_kept m b old ho).2, (C17.bundleControlOf_kept m b old ho).1⟩

end Icl.C15
