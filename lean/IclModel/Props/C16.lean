/-
C16 — the read result is independent of stream fragmentation and buffer size.

`Gen.splitLP` is the statement-by-statement translation of reader.go's scanVariableLengthLines
(regenerated on every run).  `splitLP_ok` proves it satisfies `SplitOK`; `scan_eq_ref` /
`chunk_independent` (Lemmas/Scanner.lean) then give: over ANY schedule of reads (one byte at a time,
arbitrary chunks, zero-length reads) and any buffer bound, the scanner model yields exactly the
tokens and error of the whole-input reference, unless the buffer bound is hit.  `cut_is_error`:
a stream cut inside a length-prefixed record ends in io.ErrUnexpectedEOF.
The scanner model itself (bufio.Scanner) is tied to the real library by the chunked-reader
correspondence stream (every truncation offset × chunk schedules × buffer sizes).
-/
import IclModel.Lemmas.Scanner
import IclModel.Gen.Split
import IclModel.Tree
namespace Icl.C16
open Icl

theorem recognised : Gen.splitLPRecognised = true := by decide

theorem splitLP_eq (d : Bytes) (b : Bool) :
    Gen.splitLP d b =
      if 4 ≤ d.length ∧ 4 + be32Val (d.take 4) ≤ d.length then
        (4 + be32Val (d.take 4), some ((d.drop 4).take (be32Val (d.take 4))), none)
      else (0, none, if b && d.length ≠ 0 then some .unexpectedEOF else none) := by
  unfold Gen.splitLP
  by_cases h0 : d.length = 0
  · cases b <;> simp [h0]
  · by_cases h4 : d.length < 4
    · have : ¬ 4 ≤ d.length := by omega
      cases b <;> simp [h0, h4, this]
    · have h4' : 4 ≤ d.length := by omega
      by_cases hn : 4 + be32Val (d.take 4) ≤ d.length
      · cases b <;> simp [h0, h4, h4', hn]
      · have : d.length < 4 + be32Val (d.take 4) := by omega
        cases b <;> simp [h0, h4, h4', hn, this]

theorem splitLP_ok : SplitOK Gen.splitLP where
  stable_tok := by
    intro d e adv t h
    rw [splitLP_eq] at h ⊢
    split at h
    · rename_i hc
      have htake : (d ++ e).take 4 = d.take 4 := List.take_append_of_le_length hc.1
      have hdrop : ((d ++ e).drop 4).take (be32Val (d.take 4)) = (d.drop 4).take (be32Val (d.take 4)) := by
        rw [List.drop_append_of_le_length hc.1, List.take_append_of_le_length (by rw [List.length_drop]; omega)]
      rw [htake, hdrop, if_pos ⟨by rw [List.length_append]; omega, by rw [List.length_append]; omega⟩]
      exact h
    · cases h
  stable_err := by
    intro d e adv tok er h
    rw [splitLP_eq] at h
    split at h <;> cases h
  stable_skip := by
    intro d e adv h0 h
    rw [splitLP_eq] at h
    split at h
    · cases h
    · cases h; exact absurd rfl h0
  adv_le := by
    intro d b adv tok h
    rw [splitLP_eq] at h
    split at h
    · rename_i hc; cases h; exact hc.2
    · rw [← (Prod.mk.inj h).1]; exact Nat.zero_le _
  tok_progress := by
    intro d adv t h
    rw [splitLP_eq] at h
    split at h
    · cases h; omega
    · cases h

/-- **C16 for the length-prefix split function of reader.go**: any delivery schedule, any buffer -/
theorem C16_lp_chunk_independent (x : Bytes) (m1 m2 : Nat) (s1 s2 : List Nat)
    (h1 : (scan Gen.splitLP m1 s1 [] x).2 ≠ some .tooLong) (h2 : (scan Gen.splitLP m2 s2 [] x).2 ≠ some .tooLong) :
    scan Gen.splitLP m1 s1 [] x = scan Gen.splitLP m2 s2 [] x :=
  chunk_independent Gen.splitLP splitLP_ok x m1 m2 s1 s2 h1 h2

/-- at end of input the translated function reports a partial record as io.ErrUnexpectedEOF -/
theorem cut_is_error (d : Bytes) (hne : d ≠ [])
    (hcut : d.length < 4 ∨ d.length < 4 + be32Val (d.take 4)) :
    (Gen.splitLP d true).2.2 = some .unexpectedEOF := by
  have h0 : d.length ≠ 0 := fun h => hne (List.length_eq_zero_iff.1 h)
  rw [splitLP_eq, if_neg (by omega)]
  simp [h0]

/-- the model of `bufio.ScanLines` (Scanner.lean) satisfies the contract the chunk-independence theorem
needs: a line found in the bytes seen so far is found identically when more bytes have arrived -/
theorem scanLines_ok : SplitOK scanLinesSplit where
  stable_tok := by
    intro d e adv t
    fun_cases scanLinesSplit d false <;> intro h <;> cases h
    next i hi =>
      have hlt : i < d.length := (List.findIdx?_eq_some_iff_getElem.1 hi).1
      have hi' : (d ++ e).idxOf? 0x0A = some i := by
        unfold List.idxOf? at hi ⊢; rw [List.findIdx?_append, hi]; rfl
      simp only [scanLinesSplit, hi', List.take_append_of_le_length (Nat.le_of_lt hlt)]
      rfl
    next => contradiction
  stable_err := by
    intro d e adv tok er
    fun_cases scanLinesSplit d false <;> intro h <;> cases h
  stable_skip := by
    intro d e adv h0
    fun_cases scanLinesSplit d false <;> intro h <;> cases h <;> exact absurd rfl h0
  adv_le := by
    intro d b adv tok
    fun_cases scanLinesSplit d b <;> intro h <;> cases h
    · exact Nat.zero_le _
    · exact (List.findIdx?_eq_some_iff_getElem.1 ‹_›).1
    · exact Nat.le_refl _
    · exact Nat.zero_le _
  tok_progress := by
    intro d adv t
    fun_cases scanLinesSplit d false <;> intro h <;> cases h
    · exact Nat.succ_ne_zero _
    · contradiction

/-- **C16 for newline framing**: any delivery schedule, any buffer bound -/
theorem C16_nl_chunk_independent (x : Bytes) (m1 m2 : Nat) (s1 s2 : List Nat)
    (h1 : (scan scanLinesSplit m1 s1 [] x).2 ≠ some .tooLong) (h2 : (scan scanLinesSplit m2 s2 [] x).2 ≠ some .tooLong) :
    scan scanLinesSplit m1 s1 [] x = scan scanLinesSplit m2 s2 [] x :=
  chunk_independent scanLinesSplit scanLines_ok x m1 m2 s1 s2 h1 h2

/-- **C16 at the level of the whole read**: `Reader.Read` over a stream delivered by any schedule
with any buffer bound returns the same file and the same error, in both framings, unless the buffer
bound is hit (`readFileScan`, IclModel/Tree.lean, feeds the scanner's tokens to the record loop) -/
theorem C16_read_independent (m : Model) (e : Enc) (x : Bytes) (m1 m2 : Nat) (s1 s2 : List Nat)
    (h1 : (scan (if e.lp then Gen.splitLP else scanLinesSplit) m1 s1 [] x).2 ≠ some .tooLong)
    (h2 : (scan (if e.lp then Gen.splitLP else scanLinesSplit) m2 s2 [] x).2 ≠ some .tooLong) :
    readFileScan m e Gen.splitLP m1 s1 x = readFileScan m e Gen.splitLP m2 s2 x := by
  have hs : SplitOK (if e.lp then Gen.splitLP else scanLinesSplit) := by
    split
    · exact splitLP_ok
    · exact scanLines_ok
  unfold readFileScan
  rw [chunk_independent _ hs x m1 m2 s1 s2 h1 h2]

end Icl.C16
