/-
The writer walk: `Writer.Write` and the `write*` methods of writer.go are TRANSLATED statement by statement
into Lean (Gen/Walk.lean, regenerated on every run; accessors resolved through the declared Go types and the
trivial getters).  Theorem `walk_eq_flatten`: for every file, the translated walk hands to `writeLine` exactly
the records of `File.flatten` - the sequence the model writer (`writeFile`, Tree.lean) frames and the C01 / C06 /
C08 theorems speak about - and returns an error exactly when the file does not validate or an item's image
view counts disagree.  So the record order and the guards of the model writer are those of the source.
-/
import IclModel.Gen.Walk
import IclModel.Lemmas.BuildRT
namespace Icl.Walk
open Icl Icl.WalkRT

theorem seq_some (a b : List (Kind × Option Vals)) : seq (some a) (some b) = some (a ++ b) := rfl
theorem seq_none_left (b : Out) : seq none b = none := rfl
theorem seq_none_right (a : Out) : seq a none = none := by cases a <;> rfl
theorem seq_nil_right (a : Out) : seq a (some []) = a := by cases a <;> simp [seq]

theorem seq_ite_right (a : List (Kind × Option Vals)) (c : Bool) (b : List (Kind × Option Vals)) :
    seq (some a) (if c = true then some b else none) = if c = true then some (a ++ b) else none := by
  cases c <;> simp [seq]

theorem seq_ite_left (c : Bool) (a : List (Kind × Option Vals)) (b : Out) :
    seq (if c = true then some a else none) b = if c = true then seq (some a) b else none := by
  cases c <;> simp [seq]

theorem forEach_ite {α : Type} (l : List α) (f : α → Out) (p : α → Bool) (g : α → List (Kind × Option Vals))
    (h : ∀ x ∈ l, f x = if p x = true then some (g x) else none) :
    forEach l f = if l.all p = true then some (l.flatMap g) else none := by
  induction l with
  | nil => simp [forEach]
  | cons x r ih =>
    rw [List.forall_mem_cons] at h
    simp only [forEach, h.1, ih h.2, List.all_cons, List.flatMap_cons]
    cases p x <;> cases r.all p <;> simp [seq]

theorem forEach_some {α : Type} (l : List α) (f : α → Out) (g : α → List (Kind × Option Vals))
    (h : ∀ x ∈ l, f x = some (g x)) : forEach l f = some (l.flatMap g) := by
  have := forEach_ite l f (fun _ => true) g (fun x hx => by simp [h x hx])
  simpa using this

theorem forEach_map {α β : Type} (g : β → α) (f : α → Out) : ∀ l : List β, forEach (l.map g) f = forEach l (fun x => f (g x))
  | [] => rfl
  | x :: r => by simp only [List.map_cons, forEach, forEach_map g f r]

/-- `for i := range xs { writeLine(&xs[i]) }` hands over the elements in order -/
theorem forIdx_lines' (k : Kind) : ∀ (l : List Vals),
    forIdx l.length (fun i => lineIdx (k, l[(i).toNat]?)) = some (l.map (fun r => (k, some r)))
  | [] => rfl
  | x :: r => by
    have ih := forIdx_lines' k r
    unfold forIdx at ih ⊢
    rw [List.length_cons, List.range_succ_eq_map, forEach, forEach_map]
    simp only [Int.toNat_natCast, List.getElem?_cons_succ] at ih ⊢
    rw [ih]; rfl

open Icl.Gen.W

theorem lineIdx_get (k : Kind) (l : List Vals) (i : Nat) (h : i < l.length) :
    lineIdx (k, l[((i : Nat) : Int).toNat]?) = some (optRec k l i) := by
  simp [lineIdx, optRec, List.getElem?_eq_getElem h]

/-- the guard in front of the loop: a view list that is there has one entry per detail record -/
theorem countGuard (t d : List Vals) :
    (decide ((t.length : Int) > (0 : Int)) && decide ((t.length : Int) ≠ (d.length : Int))) =
      !(t.isEmpty || t.length == d.length) := by
  rw [BuildRT.len_gt_zero, Bool.not_or]
  congr 1
  simp only [ne_eq, Int.natCast_inj, decide_not, Bool.beq_eq_decide_eq]

/-- inside the loop: the data / analysis record of index `i`, when the list is there -/
theorem optLine (k : Kind) (t d : List Vals) (ht : (t.isEmpty || t.length == d.length) = true) (i : Nat) (hi : i < d.length) :
    (if (decide ((t.length : Int) > (0 : Int)) && decide ((t.length : Int) ≥ ((i : Nat) : Int) - (1 : Int))) = true then
      (lineIdx (k, t[((i : Nat) : Int).toNat]?)) else some []) = some (optRec k t i) := by
  simp only [Bool.or_eq_true, List.isEmpty_iff, beq_iff_eq] at ht
  rcases ht with h | h
  · subst h; simp [optRec]
  · rw [if_pos (by simp only [Bool.and_eq_true, decide_eq_true_eq]; omega), lineIdx_get k t i (by omega)]

/-- `writeImageView`: the views in the order detail, data, analysis per index - or an error when the counts disagree -/
theorem writeImageView_eq (d t a : List Vals) :
    writeImageView d t a =
      if ((t.isEmpty || t.length == d.length) && (a.isEmpty || a.length == d.length)) = true then
        some ((List.range d.length).flatMap (fun i => optRec .ivDetail d i ++ optRec .ivData t i ++ optRec .ivAnalysis a i))
      else none := by
  unfold writeImageView
  simp only [countGuard]
  cases ht : (t.isEmpty || t.length == d.length)
  · rfl
  cases ha : (a.isEmpty || a.length == d.length)
  · rfl
  simp only [Bool.not_true, Bool.false_eq_true, if_false, Bool.and_self, if_true, seq_nil_right]
  unfold forIdx
  refine forEach_some _ _ _ fun i hi => ?_
  have hi' : i < d.length := List.mem_range.1 hi
  simp only [lineIdx_get _ d i hi', optLine _ t d ht i hi', optLine _ a d ha i hi', seq_some, List.append_assoc]

theorem imageCountsOK_eq (it : Item Vals) :
    it.imageCountsOK = ((it.ivData.isEmpty || it.ivData.length == it.ivDetail.length) &&
      (it.ivAnalysis.isEmpty || it.ivAnalysis.length == it.ivDetail.length)) := rfl

theorem writeCheckDetail_eq (b : Bundle Vals) :
    writeCheckDetail b = if b.checks.all Item.imageCountsOK = true then some (b.checks.flatMap (Item.flatten true)) else none := by
  unfold writeCheckDetail
  rw [seq_nil_right]
  refine forEach_ite _ _ _ _ (fun cd _ => ?_)
  unfold writeCheckDetailAddendum writeCheckImageView
  simp only [seq_nil_right, forIdx_lines', writeImageView_eq, line, ← imageCountsOK_eq, seq_some, seq_ite_right,
    Item.flatten, if_true, List.append_assoc, List.nil_append]

theorem writeReturnDetail_eq (b : Bundle Vals) :
    writeReturnDetail b = if b.returns.all Item.imageCountsOK = true then some (b.returns.flatMap (Item.flatten false)) else none := by
  unfold writeReturnDetail
  rw [seq_nil_right]
  refine forEach_ite _ _ _ _ (fun rd _ => ?_)
  unfold writeReturnDetailAddendum writeReturnImageView
  simp only [seq_nil_right, forIdx_lines', writeImageView_eq, line, ← imageCountsOK_eq, seq_some, seq_ite_right,
    Item.flatten, Bool.false_eq_true, if_false, List.append_assoc]

/-- `if len(xs) > 0 { walk xs }`: the walk of an empty list emits nothing anyway -/
theorem guard_len {α : Type} (l : List α) (o : Out) (h : l = [] → o = some []) :
    (if decide ((l.length : Int) > (0 : Int)) = true then o else some []) = o := by
  rw [BuildRT.len_gt_zero]
  cases l with
  | nil => exact (h rfl).symm
  | cons x r => rfl

def bundleCountsOK (b : Bundle Vals) : Bool := b.checks.all Item.imageCountsOK && b.returns.all Item.imageCountsOK

theorem writeBundle_eq (cl : CashLetter Vals) :
    writeBundle cl = if cl.bundles.all bundleCountsOK = true then some (cl.bundles.flatMap Bundle.flatten) else none := by
  unfold writeBundle
  rw [seq_nil_right]
  refine forEach_ite _ _ _ _ (fun b _ => ?_)
  simp only [seq_nil_right, writeCheckDetail_eq, writeReturnDetail_eq, line, bundleCountsOK]
  rw [guard_len b.checks _ (fun h => by rw [h]; rfl), guard_len b.returns _ (fun h => by rw [h]; rfl)]
  by_cases h1 : b.checks.all Item.imageCountsOK = true <;> by_cases h2 : b.returns.all Item.imageCountsOK = true <;>
    simp [h1, h2, seq, Bundle.flatten, List.append_assoc]

def clCountsOK (cl : CashLetter Vals) : Bool := cl.bundles.all bundleCountsOK

theorem forEach_line' {α : Type} (l : List α) (g : α → Kind × Option Vals) :
    forEach l (fun x => line (g x)) = some (l.map g) := by
  rw [forEach_some l (fun x => line (g x)) (fun x => [g x]) (fun _ _ => rfl), ← List.map_eq_flatMap]

theorem writeCashLetter_eq (f : File Vals) :
    writeCashLetter f = if f.cashLetters.all clCountsOK = true then some (f.cashLetters.flatMap CashLetter.flatten) else none := by
  unfold writeCashLetter
  rw [seq_nil_right]
  refine forEach_ite _ _ _ _ (fun cl _ => ?_)
  simp only [seq_nil_right, forEach_line', writeBundle_eq, clCountsOK]
  simp only [line, seq_some, seq_ite_right, seq_ite_left, CashLetter.flatten, List.append_assoc]

theorem countsOK_eq (f : File Vals) : f.cashLetters.all clCountsOK = f.imageCountsOK := rfl

/-- every statement of `Writer.Write` and of the `write*` methods had a recognised shape -/
theorem walk_recognised : Gen.W.recognised = true := by decide

/-- **the walk of writer.go is the model's record sequence**: `Writer.Write`, as translated from the source,
hands to `writeLine` exactly `File.flatten` in order - file header, per cash letter its header, credit items,
credits, bundles (header, items with addenda and image views per index, control), routing number summaries,
control, then the file control - and fails exactly when the file does not validate or image view counts disagree -/
theorem walk_eq_flatten (f : File Vals) :
    Gen.W.Write f = if fileValidate f = true then (if f.imageCountsOK = true then some f.flatten else none) else none := by
  unfold Gen.W.Write
  simp only [writeCashLetter_eq, countsOK_eq, line, seq_nil_right]
  by_cases h1 : fileValidate f = true <;> by_cases h2 : f.imageCountsOK = true <;>
    simp [h1, h2, seq, File.flatten]

/-- the model writer frames the records of the translated walk: same acceptance, same order -/
theorem writeFile_of_walk (m : Model) (e : Enc) (f : File Vals) :
    writeFile m e f =
      match Gen.W.Write f with
      | none => none
      | some recs => recs.foldl (fun acc kr =>
          match acc, writeLine m e kr.1 kr.2 with
          | some a, some l => some (a ++ l)
          | _, _ => none) (some []) := by
  rw [walk_eq_flatten]
  unfold writeFile
  by_cases h1 : fileValidate f = true <;> by_cases h2 : f.imageCountsOK = true <;> simp [h1, h2] <;> rfl

end Icl.Walk
