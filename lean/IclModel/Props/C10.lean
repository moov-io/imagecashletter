/-
C10 — coded fields accept exactly their documented code tables; mandatory fields are rejected when
blank or zero; the verdict depends only on the record's content and on the FRB flag.

`Gen.codes` / `Gen.Rules.*` are regenerated from validators.go and every record's Validate() (with
fieldInclusion and the other methods it calls inlined) on every run; `Spec.codes` / `Spec.Rules.*` are
the hand transcription of the documented tables and rules in flattened form.  `validate_sites`
(Lemmas/Sites.lean) gives the flattened form its meaning: the verdict of `Validate()` on ANY record
value is the field of the first rule whose conditions hold.
-/
import IclModel.Lemmas.Sites
import IclModel.Gen.Rules
import IclModel.Spec.Rules
namespace Icl.C10
open Icl

/-- every `isXxx` switch, both return-reason dictionaries and the three character classes are the
documented tables: a code added to or dropped from a table breaks this -/
theorem codes_eq : Gen.codes = Spec.codes := by rfl

/-- membership in a code table is what the validators decide, for every string / every integer -/
theorem codeAccepts_strs (c : Codes) (fn : String) (l : List Bytes) (h : c.get fn = .strs l) (x : Bytes) :
    codeAccepts c fn (.s x) = true ↔ x ∈ l := by
  simp [codeAccepts, h]

theorem codeAccepts_ints (c : Codes) (fn : String) (l : List Int) (h : c.get fn = .ints l) (x : Int) :
    codeAccepts c fn (.i x) = true ↔ x ∈ l := by
  simp [codeAccepts, h]

theorem codeAccepts_cls (c : Codes) (fn : String) (l : List UInt8) (h : c.get fn = .cls l) (x : Bytes) :
    codeAccepts c fn (.s x) = true ↔ ∀ b ∈ x, b ∈ l := by
  simp [codeAccepts, h]

/-! ## the regenerated rule trees flatten to the documented rules -/

theorem sites_fileHeader : sites Gen.Rules.fileHeader = Spec.Rules.fileHeader := by rfl
theorem sites_cashLetterHeader : sites Gen.Rules.cashLetterHeader = Spec.Rules.cashLetterHeader := by rfl
theorem sites_bundleHeader : sites Gen.Rules.bundleHeader = Spec.Rules.bundleHeader := by rfl
theorem sites_checkDetail : sites Gen.Rules.checkDetail = Spec.Rules.checkDetail := by rfl
theorem sites_checkDetailAddendumA : sites Gen.Rules.checkDetailAddendumA = Spec.Rules.checkDetailAddendumA := by rfl
theorem sites_checkDetailAddendumB : sites Gen.Rules.checkDetailAddendumB = Spec.Rules.checkDetailAddendumB := by rfl
theorem sites_checkDetailAddendumC : sites Gen.Rules.checkDetailAddendumC = Spec.Rules.checkDetailAddendumC := by rfl
theorem sites_returnDetail : sites Gen.Rules.returnDetail = Spec.Rules.returnDetail := by rfl
theorem sites_returnDetailAddendumA : sites Gen.Rules.returnDetailAddendumA = Spec.Rules.returnDetailAddendumA := by rfl
theorem sites_returnDetailAddendumB : sites Gen.Rules.returnDetailAddendumB = Spec.Rules.returnDetailAddendumB := by rfl
theorem sites_returnDetailAddendumC : sites Gen.Rules.returnDetailAddendumC = Spec.Rules.returnDetailAddendumC := by rfl
theorem sites_returnDetailAddendumD : sites Gen.Rules.returnDetailAddendumD = Spec.Rules.returnDetailAddendumD := by rfl
theorem sites_imageViewDetail : sites Gen.Rules.imageViewDetail = Spec.Rules.imageViewDetail := by rfl
theorem sites_imageViewData : sites Gen.Rules.imageViewData = Spec.Rules.imageViewData := by rfl
theorem sites_imageViewAnalysis : sites Gen.Rules.imageViewAnalysis = Spec.Rules.imageViewAnalysis := by rfl
theorem sites_credit : sites Gen.Rules.credit = Spec.Rules.credit := by rfl
theorem sites_creditItem : sites Gen.Rules.creditItem = Spec.Rules.creditItem := by rfl
theorem sites_userGeneral : sites Gen.Rules.userGeneral = Spec.Rules.userGeneral := by rfl
theorem sites_userPayeeEndorsement : sites Gen.Rules.userPayeeEndorsement = Spec.Rules.userPayeeEndorsement := by rfl
theorem sites_bundleControl : sites Gen.Rules.bundleControl = Spec.Rules.bundleControl := by rfl
theorem sites_routingNumberSummary : sites Gen.Rules.routingNumberSummary = Spec.Rules.routingNumberSummary := by rfl
theorem sites_cashLetterControl : sites Gen.Rules.cashLetterControl = Spec.Rules.cashLetterControl := by rfl
theorem sites_fileControl : sites Gen.Rules.fileControl = Spec.Rules.fileControl := by rfl

/-! ## meaning: `Validate()` = first documented rule that fires, for every record value

(not for CheckDetailAddendumA and ImageViewDetail: their trees assign, and `validate_sites` needs `noAssign`) -/

theorem validate_fileHeader (cx : VCtx) (v : Vals) :
    (validate cx Gen.Rules.fileHeader v).1 = firstFiring cx v Spec.Rules.fileHeader :=
  sites_fileHeader ▸ validate_sites cx _ v rfl
theorem validate_cashLetterHeader (cx : VCtx) (v : Vals) :
    (validate cx Gen.Rules.cashLetterHeader v).1 = firstFiring cx v Spec.Rules.cashLetterHeader :=
  sites_cashLetterHeader ▸ validate_sites cx _ v rfl
theorem validate_bundleHeader (cx : VCtx) (v : Vals) :
    (validate cx Gen.Rules.bundleHeader v).1 = firstFiring cx v Spec.Rules.bundleHeader :=
  sites_bundleHeader ▸ validate_sites cx _ v rfl
theorem validate_checkDetail (cx : VCtx) (v : Vals) :
    (validate cx Gen.Rules.checkDetail v).1 = firstFiring cx v Spec.Rules.checkDetail :=
  sites_checkDetail ▸ validate_sites cx _ v rfl
theorem validate_checkDetailAddendumB (cx : VCtx) (v : Vals) :
    (validate cx Gen.Rules.checkDetailAddendumB v).1 = firstFiring cx v Spec.Rules.checkDetailAddendumB :=
  sites_checkDetailAddendumB ▸ validate_sites cx _ v rfl
theorem validate_checkDetailAddendumC (cx : VCtx) (v : Vals) :
    (validate cx Gen.Rules.checkDetailAddendumC v).1 = firstFiring cx v Spec.Rules.checkDetailAddendumC :=
  sites_checkDetailAddendumC ▸ validate_sites cx _ v rfl
theorem validate_returnDetail (cx : VCtx) (v : Vals) :
    (validate cx Gen.Rules.returnDetail v).1 = firstFiring cx v Spec.Rules.returnDetail :=
  sites_returnDetail ▸ validate_sites cx _ v rfl
theorem validate_returnDetailAddendumA (cx : VCtx) (v : Vals) :
    (validate cx Gen.Rules.returnDetailAddendumA v).1 = firstFiring cx v Spec.Rules.returnDetailAddendumA :=
  sites_returnDetailAddendumA ▸ validate_sites cx _ v rfl
theorem validate_returnDetailAddendumB (cx : VCtx) (v : Vals) :
    (validate cx Gen.Rules.returnDetailAddendumB v).1 = firstFiring cx v Spec.Rules.returnDetailAddendumB :=
  sites_returnDetailAddendumB ▸ validate_sites cx _ v rfl
theorem validate_returnDetailAddendumC (cx : VCtx) (v : Vals) :
    (validate cx Gen.Rules.returnDetailAddendumC v).1 = firstFiring cx v Spec.Rules.returnDetailAddendumC :=
  sites_returnDetailAddendumC ▸ validate_sites cx _ v rfl
theorem validate_returnDetailAddendumD (cx : VCtx) (v : Vals) :
    (validate cx Gen.Rules.returnDetailAddendumD v).1 = firstFiring cx v Spec.Rules.returnDetailAddendumD :=
  sites_returnDetailAddendumD ▸ validate_sites cx _ v rfl
theorem validate_imageViewData (cx : VCtx) (v : Vals) :
    (validate cx Gen.Rules.imageViewData v).1 = firstFiring cx v Spec.Rules.imageViewData :=
  sites_imageViewData ▸ validate_sites cx _ v rfl
theorem validate_imageViewAnalysis (cx : VCtx) (v : Vals) :
    (validate cx Gen.Rules.imageViewAnalysis v).1 = firstFiring cx v Spec.Rules.imageViewAnalysis :=
  sites_imageViewAnalysis ▸ validate_sites cx _ v rfl
theorem validate_credit (cx : VCtx) (v : Vals) :
    (validate cx Gen.Rules.credit v).1 = firstFiring cx v Spec.Rules.credit :=
  sites_credit ▸ validate_sites cx _ v rfl
theorem validate_creditItem (cx : VCtx) (v : Vals) :
    (validate cx Gen.Rules.creditItem v).1 = firstFiring cx v Spec.Rules.creditItem :=
  sites_creditItem ▸ validate_sites cx _ v rfl
theorem validate_userGeneral (cx : VCtx) (v : Vals) :
    (validate cx Gen.Rules.userGeneral v).1 = firstFiring cx v Spec.Rules.userGeneral :=
  sites_userGeneral ▸ validate_sites cx _ v rfl
theorem validate_userPayeeEndorsement (cx : VCtx) (v : Vals) :
    (validate cx Gen.Rules.userPayeeEndorsement v).1 = firstFiring cx v Spec.Rules.userPayeeEndorsement :=
  sites_userPayeeEndorsement ▸ validate_sites cx _ v rfl
theorem validate_bundleControl (cx : VCtx) (v : Vals) :
    (validate cx Gen.Rules.bundleControl v).1 = firstFiring cx v Spec.Rules.bundleControl :=
  sites_bundleControl ▸ validate_sites cx _ v rfl
theorem validate_routingNumberSummary (cx : VCtx) (v : Vals) :
    (validate cx Gen.Rules.routingNumberSummary v).1 = firstFiring cx v Spec.Rules.routingNumberSummary :=
  sites_routingNumberSummary ▸ validate_sites cx _ v rfl
theorem validate_cashLetterControl (cx : VCtx) (v : Vals) :
    (validate cx Gen.Rules.cashLetterControl v).1 = firstFiring cx v Spec.Rules.cashLetterControl :=
  sites_cashLetterControl ▸ validate_sites cx _ v rfl
theorem validate_fileControl (cx : VCtx) (v : Vals) :
    (validate cx Gen.Rules.fileControl v).1 = firstFiring cx v Spec.Rules.fileControl :=
  sites_fileControl ▸ validate_sites cx _ v rfl

/-- the verdict is a function of the record's content, the tables and the FRB flag only: `validate`
has no other input (stated for the record: two contexts that agree on those give the same verdict) -/
theorem verdict_depends_only (cx cx' : VCtx) (s : Stmt) (v : Vals)
    (hc : cx.codes = cx'.codes) (hw : cx.write = cx'.write) (hb : cx.b64 = cx'.b64) (hf : cx.frb = cx'.frb) :
    validate cx s v = validate cx' s v := by
  cases cx; cases cx'; simp_all

end Icl.C10
