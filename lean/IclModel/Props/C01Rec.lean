/-
C01, record level and end to end: the per-record premise of `C01_write_read_*` - a rendered line
decodes back to its record - is a theorem for every canonical record of each of the 21 record kinds,
fixed width or with variable sections (27, 34, 52), on the layouts REGENERATED from /repo:
`gen_kindOK` checks by `decide`, for every kind (one evaluation over `Kind.all`), that every slice of the regenerated `Parse()` is the span of the
field the regenerated `String()` writes, decoded by the inverse of the getter's converter.  Hence
`C01_canonical_lp_ascii` / `C01_canonical_nl_ascii`: a canonical file the model writer accepts reads back
as itself.  What "canonical" means is explicit (`RecCanon`, `CanonFile`): fields fit their column, no
leading/trailing blanks, non-negative numbers that fit, valid dates, announced lengths = actual lengths,
image data that is not base64 text, members stored untrimmed by `Parse()` (`rawDsts`) at full width, the
record valid.  The driver evaluates the decidable part of `RecCanon` on every generated record (non-vacuity).
Under EBCDIC (`C01_canonical_lp_ebcdic` / `C01_canonical_nl_ebcdic`) the rendered text must also be carried by
the regenerated CP037 table (`CanonFileE`).
-/
import IclModel.Lemmas.RecCanon
import IclModel.Lemmas.RecCanonE
import IclModel.GenModel
import IclModel.Props.C01
namespace Icl.C01
open Icl Icl.C04

/-- the checks on the regenerated layouts read nothing of the model but its layouts: they are evaluated on a closed
instance and carried over to `genModel frb now` -/
theorem layout_congr {m m' : Model} (h : m.layouts = m'.layouts) : m.layout = m'.layout := by
  funext k; unfold Model.layout; rw [h]

theorem gen_layout (frb : Bool) (now : Date) : (genModel frb now).layout = (genModel false Date.zero).layout :=
  -- through `Gen.all`: asked whether the two `layouts` agree, the kernel first compares the two models, validators included
  layout_congr (Eq.trans (b := Gen.all) rfl rfl)

/-- file header and file control are exactly 80 columns, type code first; the header's `Parse()` counts runes
somewhere, so that `RecCanonFrom.runes` applies and its line is 80 characters (`FileOK.hdrRunes`) -/
def EndsOK (m : Model) : Bool :=
  [Kind.fileHeader, Kind.fileControl].all (fun k =>
    LayoutOK (m.layout k) && TypeFirst (m.layout k).write && endOff (m.layout k).write ⟨0, []⟩ == ⟨80, []⟩) &&
  (m.layout .fileHeader).parse.any usesRunes

/-- **the regenerated layouts invert**: for each of the 21 record kinds, `Parse()` as translated from /repo reads
exactly the columns `String()` as translated from /repo writes, with the inverse decoder; file header and file
control are 80 columns; record 52 ends in its image.  One evaluation: the three checks share the kernel's cache of
the reduced tables. -/
theorem gen_kindOK' : (∀ k ∈ Kind.all, KindOK (genModel false Date.zero) k = true) ∧
    EndsOK (genModel false Date.zero) = true ∧ IvKindE (genModel false Date.zero) = true := by decide +kernel

theorem gen_kindOK (frb : Bool) (now : Date) (k : Kind) : KindOK (genModel frb now) k = true := by
  simp only [KindOK, FixedKind, KeyKind, IvKind, gen_layout frb now]
  exact gen_kindOK'.1 k (Kind.mem_all k)

/-- **C01, record level** (regenerated layouts, ASCII): the line rendered for a canonical record of any kind
is a line of that kind, passes the reader's length test, and decodes and validates back to the record -/
theorem C01_record_ascii (frb : Bool) (now : Date) (e : Enc) (he : e.ebcdic = false) (k : Kind) (v : Vals)
    (hc : RecCanon (genModel frb now) k v) :
    RecOK (genModel frb now) e (fun k v => lineOf (genModel frb now) k (some v)) k v :=
  recOK_ascii_all _ e he k (gen_kindOK frb now k) v hc


structure CanonFile (m : Model) (f : File Vals) : Prop where
  hdr : RecCanon m .fileHeader f.header
  /-- the file control is parsed into the reader's zero-valued control record -/
  ctl : RecCanonFrom m .fileControl {} f.control
  cashLetters : ∀ cl ∈ f.cashLetters, CanonCashLetter m cl

theorem ends_facts (m : Model) (hEnds : EndsOK m = true) (f : File Vals) (hdr : RecCanon m .fileHeader f.header)
    (ctl : RecCanonFrom m .fileControl {} f.control) :
    ((∃ rest, lineOf m .fileHeader (some f.header) = Kind.fileHeader.tag ++ rest) ∧
      (lineOf m .fileHeader (some f.header)).length = 80 ∧ runeCount (lineOf m .fileHeader (some f.header)) = 80 ∧
      parseValidate m .fileHeader id (lineOf m .fileHeader (some f.header)) ((m.layout .fileHeader).new m.now) = .ok f.header) ∧
    (∃ rest, lineOf m .fileControl (some f.control) = Kind.fileControl.tag ++ rest) ∧
      (lineOf m .fileControl (some f.control)).length = 80 ∧
      parseValidate m .fileControl id (lineOf m .fileControl (some f.control)) {} = .ok f.control := by
  simp only [EndsOK, List.all_cons, List.all_nil, Bool.and_true, Bool.and_eq_true, beq_iff_eq, List.any_eq_true] at hEnds
  obtain ⟨⟨⟨⟨hl1, ht1⟩, hE1⟩, ⟨⟨hl2, ht2⟩, hE2⟩⟩, ⟨st, hst, hur⟩⟩ := hEnds
  have hn1 : (lineOf m .fileHeader (some f.header)).length = 80 := (line_length_eq m _ hl1 _ hdr).trans (by rw [hE1]; rfl)
  exact ⟨⟨typeFirst_line m _ _ _ hdr ht1, hn1, (hdr.runes st hst hur).trans hn1, parse_canon m .fileHeader hl1 _ hdr⟩,
    typeFirst_line m _ _ _ ctl ht2, (line_length_eq m _ hl2 _ ctl).trans (by rw [hE2]; rfl),
    parse_canon_from m .fileControl hl2 _ _ ctl⟩

theorem bodyLn_ascii (m : Model) (e : Enc) (he : e.ebcdic = false) :
    bodyLn m e = fun k v => lineOf m k (some v) := by
  funext k v; simp [bodyLn, bodyOf, he]

/-- **canonical files meet the premise of the tree-level theorem** (ASCII) -/
theorem fileOK_of_canon (m : Model) (e : Enc) (he : e.ebcdic = false) (hK : ∀ k, KindOK m k = true) (hEnds : EndsOK m = true)
    (f : File Vals) (h : CanonFile m f) : FileOK m e (bodyLn m e) f := by
  rw [bodyLn_ascii m e he]
  obtain ⟨⟨⟨r1, hr1⟩, hn1, hu1, hp1⟩, ⟨r2, hr2⟩, hn2, hp2⟩ := ends_facts m hEnds f h.hdr h.ctl
  refine ⟨by rw [hr1]; exact kindOfLine_tag _ r1, by omega, ?_, ?_, by rw [hr2]; exact kindOfLine_tag _ r2, by omega, ?_,
    by rw [h.ctl.typeSet]; exact tag_nonempty _,
    fun cl hcl => cashLetterOK_of_canon m e he hK cl (h.cashLetters cl hcl)⟩
  · simpa only [he, Bool.false_eq_true, if_false, id] using hu1
  · simpa only [he, Bool.false_eq_true, if_false, id] using hp1
  · simpa only [he, Bool.false_eq_true, if_false, id] using hp2

theorem treeWF_of_all (m : Model) (P : Kind → Vals → Prop) (f : File Vals)
    (h : ∀ cl ∈ f.cashLetters, CashLetterAll m P cl) : TreeWF f := by
  intro cl hcl
  have hc := h cl hcl
  obtain ⟨x, hx, _⟩ := hc.hdr
  obtain ⟨y, hy, _⟩ := hc.ctl
  refine ⟨⟨x, y, hx, hy⟩, hc.rnsSome, ?_⟩
  intro b hb
  obtain ⟨bx, hbx, _⟩ := (hc.bundles b hb).hdr
  obtain ⟨by', hby, _⟩ := (hc.bundles b hb).ctl
  exact ⟨bx, by', hbx, hby⟩

theorem gen_endsOK (frb : Bool) (now : Date) : EndsOK (genModel frb now) = true := by
  simp only [EndsOK, gen_layout frb now]
  exact gen_kindOK'.2.1

/-- **C01, end to end on the regenerated model, ASCII, length-prefixed**: a canonical file that the model writer
accepts reads back as itself - every record of every kind, arbitrary binary image and signature bytes included -/
theorem C01_canonical_lp_ascii (frb : Bool) (now : Date) (e : Enc) (hlp : e.lp = true) (he : e.ebcdic = false)
    (f : File Vals) (bytes : Bytes) (hc : CanonFile (genModel frb now) f)
    (hw : writeFile (genModel frb now) e f = some bytes) :
    readFile (genModel frb now) e bytes = (f, none) :=
  C01_write_read_lp_ascii _ e f bytes hlp he hw (treeWF_of_all _ _ f hc.cashLetters)
    (fileOK_of_canon _ e he (gen_kindOK frb now) (gen_endsOK frb now) f hc)

/-- **C01, end to end on the regenerated model, ASCII, newline framing**: the same for files none of whose records
holds a line feed or ends in a carriage return (which newline framing cannot carry) -/
theorem C01_canonical_nl_ascii (frb : Bool) (now : Date) (e : Enc) (hlp : e.lp = false) (he : e.ebcdic = false)
    (f : File Vals) (bytes : Bytes) (hc : CanonFile (genModel frb now) f)
    (hw : writeFile (genModel frb now) e f = some bytes)
    (hno : ∀ l ∈ fileLines (bodyLn (genModel frb now) e) f, (0x0A : UInt8) ∉ l)
    (hcr : ∀ l ∈ fileLines (bodyLn (genModel frb now) e) f, dropCR l = l) :
    readFile (genModel frb now) e bytes = (f, none) :=
  C01_write_read_nl _ e f bytes hlp hw (treeWF_of_all _ _ f hc.cashLetters)
    (fileOK_of_canon _ e he (gen_kindOK frb now) (gen_endsOK frb now) f hc) hno hcr


/-- canonical and rendered as text the code page carries (record 52: everything but the image bytes, which the
EBCDIC writer emits raw) -/
def CanonSafe (m : Model) (k : Kind) (v : Vals) : Prop :=
  RecCanon m k v ∧ (if k = .ivData then IvSafe m v else (lineOf m k (some v)).all (safeB m.cm) = true)

structure CanonFileE (m : Model) (f : File Vals) : Prop where
  hdr : RecCanon m .fileHeader f.header
  ctl : RecCanonFrom m .fileControl {} f.control
  hdrSafe : (lineOf m .fileHeader (some f.header)).all (safeB m.cm) = true
  ctlSafe : (lineOf m .fileControl (some f.control)).all (safeB m.cm) = true
  cashLetters : ∀ cl ∈ f.cashLetters, CashLetterAll m (CanonSafe m) cl

theorem recOK_ebcdic_all (m : Model) (e : Enc) (he : e.ebcdic = true) (hd : DigitsOK m.cm = true)
    (hK : ∀ k, KindOK m k = true) (hIv : IvKindE m = true) (k : Kind) (v : Vals) (h : CanonSafe m k v) :
    RecOK m e (bodyLn m e) k v := by
  obtain ⟨hc, hs⟩ := h
  by_cases hk : k = .ivData
  · subst hk
    simp only [if_true] at hs
    exact recOK_ebcdic_iv m e he hd hIv v hc hs
  · simp only [hk, if_false] at hs
    have := hK k
    simp only [KindOK, Bool.or_eq_true] at this
    rcases this with (hf | hf) | hf
    · exact recOK_ebcdic m e he hd k hf v hc hs
    · exact recOK_ebcdic_key m e he hd k hf v hc hs
    · exact absurd (ivKind_base m k hf).1 hk

theorem fileOK_of_canonE (m : Model) (e : Enc) (he : e.ebcdic = true) (hd : DigitsOK m.cm = true)
    (hK : ∀ k, KindOK m k = true) (hIv : IvKindE m = true) (hEnds : EndsOK m = true)
    (f : File Vals) (h : CanonFileE m f) : FileOK m e (bodyLn m e) f := by
  obtain ⟨⟨⟨r1, hr1⟩, hn1, hu1, hp1⟩, ⟨r2, hr2⟩, hn2, hp2⟩ := ends_facts m hEnds f h.hdr h.ctl
  have hb1 := bodyLn_ebcdic m e he .fileHeader (by simp) f.header h.hdrSafe
  have hb2 := bodyLn_ebcdic m e he .fileControl (by simp) f.control h.ctlSafe
  have hd1 := decode_enc m.cm _ h.hdrSafe
  have hd2 := decode_enc m.cm _ h.ctlSafe
  refine ⟨?_, by rw [hb1, List.length_map]; omega, ?_, ?_, ?_, by rw [hb2, List.length_map]; omega, ?_,
    by rw [h.ctl.typeSet]; exact tag_nonempty _,
    fun cl hcl => cashLetterOK_of_all m e _ (CanonSafe m) (recOK_ebcdic_all m e he hd hK hIv) cl (h.cashLetters cl hcl)⟩
  · rw [hb1, hr1, List.map_append, tag_enc m.cm hd]; exact kindOfLine_ebcTag _ _
  · simpa only [he, if_true, hb1, hd1] using hu1
  · simpa only [he, if_true, hb1, hd1] using hp1
  · rw [hb2, hr2, List.map_append, tag_enc m.cm hd]; exact kindOfLine_ebcTag _ _
  · simpa only [he, if_true, hb2, hd2] using hp2

theorem gen_ivKindE (frb : Bool) (now : Date) : IvKindE (genModel frb now) = true := by
  simp only [IvKindE, IvKind, gen_layout frb now]
  exact gen_kindOK'.2.2

theorem gen_digitsOK : DigitsOK { dec := Gen.cp037Dec, repl := Gen.cp037Repl } = true := by decide +kernel

/-- the EBCDIC body of a safe canonical record is as long as its ASCII rendering (the prefix is exact) -/
theorem body_length_safe (m : Model) (e : Enc) (he : e.ebcdic = true) (hIv : IvKindE m = true) (k : Kind) (v : Vals)
    (h : CanonSafe m k v) : (bodyLn m e k v).length = (lineOf m k (some v)).length := by
  obtain ⟨hc, hs⟩ := h
  by_cases hk : k = .ivData
  · subst hk
    simp only [if_true] at hs
    obtain ⟨init, last, _, _, _, _, _, _, hfull, hbody⟩ := iv_body m e he hIv v hs
    rw [hbody, hfull, List.length_append, List.length_append, List.length_map]
  · simp only [hk, if_false] at hs
    rw [bodyLn_ebcdic m e he k hk v hs, List.length_map]

theorem hbody_of_canonE (m : Model) (e : Enc) (he : e.ebcdic = true) (hIv : IvKindE m = true) (f : File Vals)
    (h : CanonFileE m f) :
    ∀ kr ∈ f.flatten, ∀ v, kr.2 = some v → (bodyLn m e kr.1 v).length = (lineOf m kr.1 (some v)).length := by
  rw [flatten_eq_fileRecs m e f (treeWF_of_all m _ f h.cashLetters)]
  simp only [List.forall_mem_append, List.forall_mem_map, List.forall_mem_singleton, List.forall_mem_flatMap, unrec,
    Option.some.injEq, forall_eq']
  refine ⟨⟨?_, fun cl hcl r hr => body_length_safe m e he hIv _ _
    (recP_cashLetter (bodyLn m e) (CanonSafe m) m cl (h.cashLetters cl hcl) r hr)⟩, ?_⟩
  · rw [bodyLn_ebcdic m e he .fileHeader (by simp) _ h.hdrSafe, List.length_map]
  · rw [bodyLn_ebcdic m e he .fileControl (by simp) _ h.ctlSafe, List.length_map]

/-- **C01, end to end on the regenerated model, EBCDIC, length-prefixed**: a canonical file of text the regenerated
CP037 table carries (record 52: all but the image bytes, which travel raw and are arbitrary), accepted by the model
writer, reads back as itself -/
theorem C01_canonical_lp_ebcdic (frb : Bool) (now : Date) (e : Enc) (hlp : e.lp = true) (he : e.ebcdic = true)
    (f : File Vals) (bytes : Bytes) (hc : CanonFileE (genModel frb now) f)
    (hw : writeFile (genModel frb now) e f = some bytes) :
    readFile (genModel frb now) e bytes = (f, none) :=
  C01_write_read_lp _ e f bytes hlp hw (treeWF_of_all _ _ f hc.cashLetters) (hbody_of_canonE _ e he (gen_ivKindE frb now) f hc)
    -- the model is spelt out: with `_` the unifier meets `DigitsOK ?m.cm =?= DigitsOK {..}` before `?m` is known and
    -- falls back to evaluating the code page on both sides
    (fileOK_of_canonE (genModel frb now) e he gen_digitsOK (gen_kindOK frb now) (gen_ivKindE frb now) (gen_endsOK frb now) f hc)


/-- the same under newline framing, for files none of whose EBCDIC records holds the byte 0x0A or ends in 0x0D -/
theorem C01_canonical_nl_ebcdic (frb : Bool) (now : Date) (e : Enc) (hlp : e.lp = false) (he : e.ebcdic = true)
    (f : File Vals) (bytes : Bytes) (hc : CanonFileE (genModel frb now) f)
    (hw : writeFile (genModel frb now) e f = some bytes)
    (hno : ∀ l ∈ fileLines (bodyLn (genModel frb now) e) f, (0x0A : UInt8) ∉ l)
    (hcr : ∀ l ∈ fileLines (bodyLn (genModel frb now) e) f, dropCR l = l) :
    readFile (genModel frb now) e bytes = (f, none) :=
  C01_write_read_nl _ e f bytes hlp hw (treeWF_of_all _ _ f hc.cashLetters)
    (fileOK_of_canonE (genModel frb now) e he gen_digitsOK (gen_kindOK frb now) (gen_ivKindE frb now) (gen_endsOK frb now) f hc) hno hcr

end Icl.C01
