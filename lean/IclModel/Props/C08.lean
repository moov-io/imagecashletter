/-
C08 — character set and framing never change content.

Theorems about the model writer (`writeLine` / `writeFile` in Tree.lean, tied to writer.go by
`writeLine_eq_model` (Props/C02WriteLine.lean: the translated `writeLine` is the model's), `walk_eq_flatten`
(Props/C01Walk.lean: the translated walk hands `writeLine` the records of `File.flatten`) and the
four-rendering correspondence stream):
  * both framings wrap the SAME body; the length prefix is `len(record.String())`;
  * for a record whose ASCII rendering is ASCII text the EBCDIC body is its byte-for-byte CP037
    transliteration, of the same length — so the prefix equals the number of bytes that follow;
  * record 52: the transliterated part is `toString(false)`, the image bytes are those of `String()`.
Length-prefix framing itself is lossless for arbitrary bytes (C01.framing_lp).
-/
import IclModel.Props.C01
import IclModel.Tree
import IclModel.Lemmas.Ebcdic
namespace Icl.C08
open Icl

/-- **framing only wraps**: newline framing appends a line feed to the body, length-prefix framing
prepends the 4-byte big-endian length of `record.String()` to the same body -/
theorem framing_wraps_same_body (m : Model) (ebc : Bool) (k : Kind) (r : Option Vals) (body : Bytes)
    (hb : bodyOf m ebc k r = some body) :
    writeLine m ⟨false, ebc⟩ k r = some (body ++ [0x0A]) ∧
    (validSizeInt (lineOf m k r).length = true →
      writeLine m ⟨true, ebc⟩ k r = some (be32 (lineOf m k r).length ++ body)) := by
  constructor
  · simp [writeLine, hb]
  · intro hv
    simp [writeLine, hb, hv]

/-- **the prefix is exact under ASCII**: the body is the rendered record itself -/
theorem ascii_body_is_line (m : Model) (k : Kind) (r : Option Vals) :
    bodyOf m false k r = some (lineOf m k r) := by
  simp [bodyOf]

/-- **EBCDIC is the byte-for-byte transliteration** of an ASCII-text record (every record type other
than 52), hence of the same length: the prefix computed from the ASCII rendering is exact -/
theorem ebcdic_translit (m : Model) (k : Kind) (r : Option Vals) (hk : k ≠ .ivData)
    (ha : isAscii (lineOf m k r) = true) :
    bodyOf m true k r = some ((lineOf m k r).map (fun b => m.cm.encRune b.toNat)) ∧
    ∀ body, bodyOf m true k r = some body → body.length = (lineOf m k r).length := by
  rw [C01.bodyOf_ebcdic m k r hk]
  exact ⟨encode_ascii _ _ ha, fun body hb => encode_ascii_length _ _ _ ha hb⟩

/-- record 52 under EBCDIC: text part transliterated byte for byte, image bytes exactly those of the
ASCII rendering -/
theorem ebcdic_ivData (m : Model) (v : Vals)
    (ha : isAscii (render m.b64 (m.layout .ivData).write false v) = true) :
    bodyOf m true .ivData (some v) =
      some ((render m.b64 (m.layout .ivData).write false v).map (fun b => m.cm.encRune b.toNat) ++
        ((m.layout .ivData).write.filter (·.imageOnly)).flatMap (fun f => renderField m.b64 f v)) := by
  simp [bodyOf, encode_ascii _ _ ha]

/-- **same file from all four renderings** (on the model): whenever the writer accepts a file under two
option sets and each rendering reads back (C01_write_read_lp / C01_write_read_nl give this from the
per-record premise), the two readings are the same file - character set and framing carry no content -/
theorem C08_same_file (m : Model) (f : File Vals) (e1 e2 : Enc) (b1 b2 : Bytes)
    (h1 : readFile m e1 b1 = (f, none)) (h2 : readFile m e2 b2 = (f, none)) :
    readFile m e1 b1 = readFile m e2 b2 := by rw [h1, h2]

/-- instantiated: length-prefixed ASCII against length-prefixed EBCDIC -/
theorem C08_same_file_lp (m : Model) (f : File Vals) (b1 b2 : Bytes)
    (hw1 : writeFile m ⟨true, false⟩ f = some b1) (hw2 : writeFile m ⟨true, true⟩ f = some b2) (hwf : Icl.C01.TreeWF f)
    (hok1 : Icl.C01.FileOK m ⟨true, false⟩ (Icl.C01.bodyLn m ⟨true, false⟩) f)
    (hok2 : Icl.C01.FileOK m ⟨true, true⟩ (Icl.C01.bodyLn m ⟨true, true⟩) f)
    (hbody : ∀ kr ∈ f.flatten, ∀ v, kr.2 = some v →
      (Icl.C01.bodyLn m ⟨true, true⟩ kr.1 v).length = (lineOf m kr.1 (some v)).length) :
    readFile m ⟨true, false⟩ b1 = readFile m ⟨true, true⟩ b2 :=
  C08_same_file m f _ _ b1 b2
    (Icl.C01.C01_write_read_lp_ascii m ⟨true, false⟩ f b1 rfl rfl hw1 hwf hok1)
    (Icl.C01.C01_write_read_lp m ⟨true, true⟩ f b2 rfl hw2 hwf hbody hok2)

end Icl.C08
