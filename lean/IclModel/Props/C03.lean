/-
C03 — reading conformant bytes decodes the layout exactly and does not drift.

Table obligations: the `Parse()` of every record type the reader dispatches on (regenerated on every
run) reads exactly the columns the hand-transcribed layout prescribes, into the field the layout
names, with the prescribed conversion.  A parser that takes a field from columns shifted by one, from
its neighbour, or with the wrong conversion breaks `parse_tables`, on which every `parse_*` rests.
-/
import IclModel.Spec.Layouts
import IclModel.Gen.Layouts
import IclModel.Lemmas.Table
namespace Icl.C03
open Icl Icl.Spec

/-- all tables in one evaluation, which reduces each string once (entry 17, `UserGeneral`, is left out: the reader does
not dispatch on record 68, and `ParseMatches` is false of it); the per-record theorems below read off their entry -/
theorem parse_tables :
    ((Gen.all.zip Spec.all).eraseIdx 17).all (fun p => ParseMatches p.2.2 p.1.parse) = true := by decide +kernel

theorem parse_fileHeader : ParseMatches Spec.fileHeader Gen.fileHeader.parse = true := all_at parse_tables 0 (by decide)
theorem parse_cashLetterHeader : ParseMatches Spec.cashLetterHeader Gen.cashLetterHeader.parse = true := all_at parse_tables 1 (by decide)
theorem parse_bundleHeader : ParseMatches Spec.bundleHeader Gen.bundleHeader.parse = true := all_at parse_tables 2 (by decide)
theorem parse_checkDetail : ParseMatches Spec.checkDetail Gen.checkDetail.parse = true := all_at parse_tables 3 (by decide)
theorem parse_checkDetailAddendumA : ParseMatches Spec.checkDetailAddendumA Gen.checkDetailAddendumA.parse = true := all_at parse_tables 4 (by decide)
theorem parse_checkDetailAddendumB : ParseMatches Spec.checkDetailAddendumB Gen.checkDetailAddendumB.parse = true := all_at parse_tables 5 (by decide)
theorem parse_checkDetailAddendumC : ParseMatches Spec.checkDetailAddendumC Gen.checkDetailAddendumC.parse = true := all_at parse_tables 6 (by decide)
theorem parse_returnDetail : ParseMatches Spec.returnDetail Gen.returnDetail.parse = true := all_at parse_tables 7 (by decide)
theorem parse_returnDetailAddendumA : ParseMatches Spec.returnDetailAddendumA Gen.returnDetailAddendumA.parse = true := all_at parse_tables 8 (by decide)
theorem parse_returnDetailAddendumB : ParseMatches Spec.returnDetailAddendumB Gen.returnDetailAddendumB.parse = true := all_at parse_tables 9 (by decide)
theorem parse_returnDetailAddendumC : ParseMatches Spec.returnDetailAddendumC Gen.returnDetailAddendumC.parse = true := all_at parse_tables 10 (by decide)
theorem parse_returnDetailAddendumD : ParseMatches Spec.returnDetailAddendumD Gen.returnDetailAddendumD.parse = true := all_at parse_tables 11 (by decide)
theorem parse_imageViewDetail : ParseMatches Spec.imageViewDetail Gen.imageViewDetail.parse = true := all_at parse_tables 12 (by decide)
theorem parse_imageViewData : ParseMatches Spec.imageViewData Gen.imageViewData.parse = true := all_at parse_tables 13 (by decide)
theorem parse_imageViewAnalysis : ParseMatches Spec.imageViewAnalysis Gen.imageViewAnalysis.parse = true := all_at parse_tables 14 (by decide)
theorem parse_credit : ParseMatches Spec.credit Gen.credit.parse = true := all_at parse_tables 15 (by decide)
theorem parse_creditItem : ParseMatches Spec.creditItem Gen.creditItem.parse = true := all_at parse_tables 16 (by decide)
theorem parse_userPayeeEndorsement : ParseMatches Spec.userPayeeEndorsement Gen.userPayeeEndorsement.parse = true := all_at parse_tables 17 (by decide)
theorem parse_bundleControl : ParseMatches Spec.bundleControl Gen.bundleControl.parse = true := all_at parse_tables 18 (by decide)
theorem parse_routingNumberSummary : ParseMatches Spec.routingNumberSummary Gen.routingNumberSummary.parse = true := all_at parse_tables 19 (by decide)
theorem parse_cashLetterControl : ParseMatches Spec.cashLetterControl Gen.cashLetterControl.parse = true := all_at parse_tables 20 (by decide)
theorem parse_fileControl : ParseMatches Spec.fileControl Gen.fileControl.parse = true := all_at parse_tables 21 (by decide)

theorem expectedAssigns_field (fs : List SField) (a : PAssign) (ha : a ∈ expectedAssigns fs) :
    ∃ f ∈ fs, (f.name = a.1 ∧ f.start = a.2.1) ∧ f.start + f.width = a.2.2.2.1 := by
  induction fs with
  | nil => simp [expectedAssigns] at ha
  | cons f r ih =>
    simp only [expectedAssigns] at ha
    split at ha
    · obtain ⟨g, hg, h⟩ := ih ha
      exact ⟨g, List.mem_cons_of_mem _ hg, h⟩
    · rcases List.mem_cons.mp ha with rfl | ha
      · exact ⟨f, List.mem_cons_self, ⟨rfl, rfl⟩, rfl⟩
      · obtain ⟨g, hg, h⟩ := ih ha
        exact ⟨g, List.mem_cons_of_mem _ hg, h⟩

/-- the writer's columns and the reader's columns are the same columns: for every decoded field of
every record, `Parse()` slices exactly `[start, start+width)` (plus the sizes of the variable sections
before it), which by C02 (`cols_*`) is where `String()` put that field.  The statement is about the
prescribed assignments; that they are the assignments of `Parse()` is `parse_*`. -/
theorem parse_reads_written_columns :
    (Spec.all.all fun p => (expectedAssigns p.2).all fun a =>
      p.2.any fun f => f.name == a.1 && f.start == a.2.1 && f.start + f.width == a.2.2.2.1) = true := by
  simp only [List.all_eq_true, List.any_eq_true, Bool.and_eq_true, beq_iff_eq]
  exact fun p _ a ha => expectedAssigns_field p.2 a ha

end Icl.C03
