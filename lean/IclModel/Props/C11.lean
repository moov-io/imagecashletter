/-
C11 - the HTTP API behaves like a simple keyed store of files.

`Api.step` is the transcription of the handlers over the transcription of the repository
(IclModel/Api.lean); `Api.Spec.step` is the reference model: a map from file ID to file with the ten
operations written directly.  Refinement: from every store satisfying the invariant (every file stored
once, under its own non-empty ID - established by the empty store and preserved by every request) the
handler model and the reference model give the same response and the same next store, hence the same
responses over every finite history.  The clauses of the property statement are then corollaries about
the reference model.
-/
import IclModel.Lemmas.Api
namespace Icl.Api
open Spec

/-- one request: the handler model answers and moves exactly like the reference map -/
theorem C11_step (s : Store) (hs : Inv s) (r : Req) : step s r = Spec.step s r := by
  have hg := getFile_eq_lookup s hs
  cases r with
  | list => rfl
  | createV1 ct u fresh => exact step_createV1 s ct u fresh
  | createV2 ct u fresh acc => exact step_createV2 s ct u fresh acc
  | get id | contents id | validate id =>
    simp only [step_get, step_contents, step_validate]
    exact read_inv s hs id _
  | delete id =>
    rw [step_delete, hg]; simp only [Spec.step]
    split
    · rename_i h; rw [h, lookup_empty_key s hs]
    · rfl
  | updateHeader id h | addCL id h =>
    simp only [step_updateHeader, step_addCL, Spec.step]
    split
    · rfl
    · cases h with
      | none => rfl
      | some hv => exact rmw_inv s hs id _ _ fun _ => rfl
  | removeCL id cid =>
    rw [step_removeCL]; simp only [Spec.step]
    split
    · rfl
    · exact rmw_inv s hs id _ _ fun _ => rfl

theorem C11_inv (s : Store) (hs : Inv s) (r : Req) : Inv (step s r).1 :=
  inv_step s hs r

/-- every finite history: same responses and same final store as the reference model -/
theorem C11_history (rs : List Req) (s : Store) (hs : Inv s) :
    runHistory s rs = Spec.runHistory s rs := by
  induction rs generalizing s with
  | nil => rfl
  | cons r rs ih =>
    have h1 := C11_step s hs r
    have h2 := C11_inv s hs r
    simp only [runHistory, Spec.runHistory]
    rw [← h1, ih _ h2]

/-- the server starts with the empty store -/
theorem C11_from_start (rs : List Req) : runHistory [] rs = Spec.runHistory [] rs :=
  C11_history rs [] inv_nil

/-- a request changes at most the file it addresses: every other ID reads as before -/
theorem C11_other_files_untouched (s : Store) (hs : Inv s) (r : Req) (b : String) (hb : r.target ≠ some b) :
    lookup (Spec.step s r).1 b = lookup s b := by
  have hput : ∀ f : AFile, r.target = some f.id → lookup (upsert s f) b = lookup s b := fun f ht => by
    rw [upsert, lookup_put, if_neg fun e : b = f.id => hb (e ▸ ht)]
  have hrmw : ∀ id (g : AFile → AFile) (ok : AFile → Resp), r.target = some id → (∀ f, (g f).id = f.id) →
      lookup (match lookup s id with | none => (s, Resp.notFound) | some f => (upsert s (g f), ok (g f))).1 b = lookup s b :=
    fun id g ok ht hg => by
      cases hl : lookup s id with
      | none => rfl
      | some f => exact hput _ (by rw [hg, (lookup_some_id s hs id f hl).1]; exact ht)
  cases r with
  | list => rfl
  | get id | contents id | validate id => simp only [Spec.step]; split <;> rfl
  | createV1 ct u fresh =>
    simp only [Spec.step]
    cases hp : v1Parsed ct u with
    | none => rfl
    | some f =>
      dsimp only
      split
      · rfl
      · exact hput _ (by simp only [Req.target, hp])
  | createV2 ct u fresh acc =>
    simp only [Spec.step]
    cases v2Parsed ct u with
    | none => rfl
    | some f =>
      dsimp only
      split
      · rfl
      · exact hput { f with id := fresh } rfl
  | delete id =>
    simp only [Spec.step]
    cases lookup s id with
    | none => rfl
    | some f => exact (lookup_erase s id b).trans (if_neg fun e : b = id => hb (e ▸ rfl))
  | updateHeader id h | addCL id h =>
    simp only [Spec.step]
    split
    · rfl
    · cases h with
      | none => rfl
      | some hv => exact hrmw id _ (.file _) rfl fun _ => rfl
  | removeCL id cid =>
    simp only [Spec.step]
    split
    · rfl
    · exact hrmw id _ (fun _ => .okNull) rfl fun _ => rfl

/-- a created file is retrievable, under the ID it was stored with, with the content the library
computed for the upload - whichever API version created it (both write the same store) -/
theorem C11_created_is_retrievable (s : Store) (ct : CT) (u : Upload) (fresh : String) (acc : Accept) :
    (∀ f, v1Parsed ct u = some f → (withId f fresh).id ≠ "" →
      (Spec.step s (.createV1 ct u fresh)).2 = .file 201 (withId f fresh) ∧
      (Spec.step (Spec.step s (.createV1 ct u fresh)).1 (.get (withId f fresh).id)).2 = .file 200 (withId f fresh)) ∧
    (∀ f, v2Parsed ct u = some f → fresh ≠ "" →
      (Spec.step s (.createV2 ct u fresh acc)).2 = v2Resp { f with id := fresh } acc ∧
      (Spec.step (Spec.step s (.createV2 ct u fresh acc)).1 (.get fresh)).2 = .file 200 { f with id := fresh }) := by
  constructor
  · intro f hp hid
    simp [Spec.step, hp, hid, upsert, lookup_put]
  · intro f hp hid
    simp [Spec.step, hp, hid, upsert, lookup_put]

/-- a deleted ID answers 404 to every later addressed request until it is created again -/
theorem C11_deleted_is_gone (s : Store) (id : String) :
    (Spec.step (Spec.step s (.delete id)).1 (.get id)).2 = .notFound := by
  simp only [Spec.step]
  cases hl : lookup s id with
  | none => simp [hl]
  | some f => simp [lookup_erase]

/-- unknown IDs answer 404 on every endpoint that addresses a file and takes no (or a decodable) body -/
theorem C11_unknown_is_404 (s : Store) (id : String) (h : lookup s id = none) :
    (Spec.step s (.get id)).2 = .notFound ∧ (Spec.step s (.delete id)).2 = .notFound ∧
    (Spec.step s (.contents id)).2 = .notFound ∧ (Spec.step s (.validate id)).2 = .notFound ∧
    (∀ hv, (Spec.step s (.updateHeader id (some hv))).2 = .notFound) ∧
    (∀ c, (Spec.step s (.addCL id (some c))).2 = .notFound) ∧
    (∀ cid, (Spec.step s (.removeCL id cid)).2 = .notFound) := by
  refine ⟨?_, ?_, ?_, ?_, ?_, ?_, ?_⟩ <;> intros <;> simp only [Spec.step, h] <;> split <;> rfl

/-- header updates and added / removed cash letters are what a later read of that file returns -/
theorem C11_update_then_get (s : Store) (hs : Inv s) (id : String) (f : AFile) (h : lookup s id = some f) :
    (∀ hv, (Spec.step (Spec.step s (.updateHeader id (some hv))).1 (.get id)).2 = .file 200 { f with hdr := hv }) ∧
    (∀ c, (Spec.step (Spec.step s (.addCL id (some c))).1 (.get id)).2 = .file 200 { f with cls := f.cls ++ [c] }) ∧
    (∀ cid, cid ≠ "" → (Spec.step (Spec.step s (.removeCL id cid)).1 (.get id)).2
        = .file 200 { f with cls := f.cls.filter (fun c => c.id ≠ cid) }) := by
  have hid := lookup_some_id s hs id f h
  refine ⟨?_, ?_, ?_⟩ <;> intros <;> simp [Spec.step, hid.2, upsert, lookup_put, hid.1, *]

/-- non-vacuity: a history through both API versions on one store -/
example :
    let u : Upload := { asJSON := some ⟨"a", 1, [⟨"c1", 10⟩], 7⟩, asX9E := none, asX9A := some ⟨"", 2, [], 8⟩ }
    (runHistory [] [.createV1 .json u "g1", .createV2 .multipartText u "g2" .other, .addCL "g2" (some ⟨"c2", 11⟩),
        .removeCL "a" "c1", .get "a", .get "g2", .delete "a", .get "a"]).2
      = [.file 201 ⟨"a", 1, [⟨"c1", 10⟩], 7⟩, .file 201 ⟨"g2", 2, [], 8⟩, .file 200 ⟨"g2", 2, [⟨"c2", 11⟩], 8⟩,
         .okNull, .file 200 ⟨"a", 1, [], 7⟩, .file 200 ⟨"g2", 2, [⟨"c2", 11⟩], 8⟩, .okNull, .notFound] := by
  decide

end Icl.Api
