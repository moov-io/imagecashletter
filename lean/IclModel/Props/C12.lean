/-
C12 - concurrent API requests are linearizable, updates are not lost, files do not disturb each other.

Model: IclModel/Conc.lean (threads = requests, atomic actions = repository methods, `updateMu`
exclusive among the handlers that replace or delete a file).  For EVERY schedule - any number of
clients, any interleaving of arrivals and atomic actions, complete or not:

* `C12_linearizable`: the store is what running the requests that passed their last repository action
  one after the other, in that order, produces from the initial store, and each of those requests got
  the response it gets in that sequential run.  No update is lost or partially visible: an
  acknowledged request IS in the sequential history.
* `C12_realtime`: the order is consistent with real time - a request that had answered before another
  arrived precedes it.
* `C12_complete`: when all clients have answered, the order is a permutation of all requests.
* independence of files follows from C11_other_files_untouched applied along the sequential history.

The data-race clause of the property is about the compiled program and the Go memory model.  What is
proved here is the lockset discipline on the access table regenerated from the source
(`Gen.handlerCalls`): every handler that writes the store brackets its repository calls with
`updateMu.Lock` / `Unlock`, no handler assigns a variable captured from the enclosing function
(`Gen.capturedWrites = []`), and the table equals the shapes the model threads assume (`kind`).
The race detector under concurrent load is run by the harness as a search aid only.
-/
import IclModel.Lemmas.Conc
import IclModel.Props.C11
import IclModel.Gen.Api
namespace Icl.Api

theorem step_frame (s : Store) (hs : Inv s) (r : Req) (id : String) (h : r.target ≠ some id) :
    getFile (step s r).1 id = getFile s id := by
  rw [getFile_eq_lookup _ (C11_inv s hs r), getFile_eq_lookup _ hs, C11_step s hs]
  exact C11_other_files_untouched s hs r id h

theorem good_ev (reqs : List Req) (hf : FreshOK reqs) (s0 : Store) (c : Conc) (g : Good reqs s0 c) (e : Ev) :
    Good reqs s0 (Conc.ev reqs c e) := by
  -- the branches of `Conc.ev` in the order of its text; those not named leave the state alone
  fun_cases Conc.ev reqs c e
  case case1 i hti => exact good_local reqs s0 c g i .idle .ready c.lock hti trivial (fun _ _ _ hj => g.th hj) (by simp)
  case case3 i r hri hti hk s' ρ hx =>
    have := good_commit reqs s0 c g i .ready _ r hti hri (.inl rfl) (.inl rfl) (.inr ?_)
    · simpa only [hx] using this
    intro j v rj hji hj hrj
    have hu := step_kind r c.store
    rw [hk] at hu
    rcases hu with h | ⟨ct, u, fr, a, h⟩
    · rw [h]
    · subst h
      obtain ⟨-, rj', h1, h2, -⟩ := g.th hj
      rw [hrj] at h1
      cases h1
      exact step_frame c.store g.inv _ _ fun e => hf j i rj ct u fr a hrj hri h2 (Option.some.inj e)
  case case4 i r hri hti hl hk =>
    -- a handler that locks takes the mutex when it is free
    exact good_local reqs s0 c g i .ready .locked (some i) hti ⟨rfl, r, hri, fun h => hk h⟩
      (fun j tj _ hj => (g.th hj).relock (by rw [hl]; nofun) _) (by simp)
  case case6 i r hri hti hk s' ρ hx =>
    obtain ⟨hlock, -⟩ := g.th hti
    simpa only [hx] using good_commit reqs s0 c g i .locked _ r hti hri (.inr (.inl rfl)) (.inr ⟨rfl, hlock⟩) (.inl hlock)
  case case7 i r hri hti hk =>
    obtain ⟨hlock, r', hr', hkr⟩ := g.th hti
    rw [hri] at hr'
    cases hr'
    have hk' : kind r = .rmw := by cases h : kind r <;> simp_all
    exact good_local reqs s0 c g i .locked (.got (getFile c.store (rmwId r))) c.lock hti ⟨hlock, r, hri, hk', rfl⟩
      (fun _ _ _ hj => g.th hj) (by simp)
  case case8 i v r hri hti s' ρ hx =>
    obtain ⟨hlock, r', hr', hkr, hv⟩ := g.th hti
    rw [hri] at hr'
    cases hr'
    rw [← hv, applyRMW_eq_step r c.store hkr] at hx
    simpa only [hx] using good_commit reqs s0 c g i (.got v) _ r hti hri (.inr (.inr ⟨v, rfl⟩)) (.inr ⟨rfl, hlock⟩) (.inl hlock)
  case case9 i ρ r hri hti =>
    obtain ⟨hlock, hmem⟩ := g.th hti
    exact good_local reqs s0 c g i (.committed ρ) (.done ρ) none hti hmem
      (fun j tj hji hj => (g.th hj).relock (by rw [hlock]; exact fun e => hji (Option.some.inj e).symm) _)
      (by simp)
  all_goals exact g

theorem good_run (reqs : List Req) (hf : FreshOK reqs) (s0 : Store) (c : Conc) (g : Good reqs s0 c) (σ : List Ev) :
    Good reqs s0 (Conc.run reqs c σ) := by
  induction σ generalizing c with
  | nil => exact g
  | cons e σ ih => exact ih _ (good_ev reqs hf s0 c g e)

/-- every schedule, any number of clients: the store and the responses given so far are those of the
sequential run of the linearized requests; every answered request is among them, once -/
theorem C12_linearizable (reqs : List Req) (hf : FreshOK reqs) (s0 : Store) (hs : Inv s0) (σ : List Ev) :
    let c := Conc.run reqs (Conc.init s0 reqs.length) σ
    runHistory s0 (c.linReqs reqs) = (c.store, c.log.map (·.2)) ∧
    (c.log.map (·.1)).Nodup ∧
    (∀ (i : Nat) ρ, c.ths[i]? = some (.done ρ) → (i, ρ) ∈ c.log) ∧
    (∀ e ∈ c.log, ∃ r, reqs[e.1]? = some r) := by
  have g := good_run reqs hf s0 _ (good_init reqs s0 hs) σ
  exact ⟨g.lin, g.nodup, fun i ρ h => g.thLog i ρ (.inr h), g.logReq⟩

theorem ev_frame (reqs : List Req) (c : Conc) (e : Ev) :
    (∃ l, (Conc.ev reqs c e).log = c.log ++ l) ∧ (Conc.ev reqs c e).ths.length = c.ths.length := by
  fun_cases Conc.ev reqs c e
  case case3 | case6 | case8 => exact ⟨⟨_, rfl⟩, by simp⟩
  all_goals exact ⟨⟨[], by simp [Conc.setTh]⟩, by simp [Conc.setTh]⟩

theorem run_frame (reqs : List Req) (c : Conc) (σ : List Ev) :
    (∃ l, (Conc.run reqs c σ).log = c.log ++ l) ∧ (Conc.run reqs c σ).ths.length = c.ths.length := by
  induction σ generalizing c with
  | nil => exact ⟨⟨[], (List.append_nil _).symm⟩, rfl⟩
  | cons e σ ih =>
    obtain ⟨⟨l, hl⟩, hn⟩ := ih (Conc.ev reqs c e)
    obtain ⟨⟨l0, hl0⟩, hn0⟩ := ev_frame reqs c e
    exact ⟨⟨l0 ++ l, by rw [← List.append_assoc, ← hl0]; exact hl⟩, hn.trans hn0⟩

/-- real-time order: if request i had answered when request j had not yet arrived, i precedes j in the
linearization of every continuation of the schedule -/
theorem C12_realtime (reqs : List Req) (hf : FreshOK reqs) (s0 : Store) (hs : Inv s0) (σ σ' : List Ev)
    (i j : Nat) (ρ : Resp)
    (hi : (Conc.run reqs (Conc.init s0 reqs.length) σ).ths[i]? = some (.done ρ))
    (hj : (Conc.run reqs (Conc.init s0 reqs.length) σ).ths[j]? = some .idle) :
    ∃ l1 l2, (Conc.run reqs (Conc.init s0 reqs.length) (σ ++ σ')).log = l1 ++ l2 ∧
      i ∈ l1.map (·.1) ∧ j ∉ l1.map (·.1) := by
  have g := good_run reqs hf s0 _ (good_init reqs s0 hs) σ
  obtain ⟨l, hl⟩ := (run_frame reqs (Conc.run reqs (Conc.init s0 reqs.length) σ) σ').1
  refine ⟨(Conc.run reqs (Conc.init s0 reqs.length) σ).log, l, ?_, ?_, ?_⟩
  · simpa [Conc.run, List.foldl_append] using hl
  · exact List.mem_map.2 ⟨(i, ρ), g.thLog i ρ (.inr hi), rfl⟩
  · intro hm
    rcases List.mem_map.1 hm with ⟨e, he, hej⟩
    have := g.logTh e he
    rw [hej, hj] at this
    simp at this

/-- when every client has been answered, every request is in the linearization (with `Nodup`: it is a
permutation of the requests) -/
theorem C12_complete (reqs : List Req) (hf : FreshOK reqs) (s0 : Store) (hs : Inv s0) (σ : List Ev)
    (hd : (Conc.run reqs (Conc.init s0 reqs.length) σ).allDone = true) :
    ∀ i, i < reqs.length → i ∈ (Conc.run reqs (Conc.init s0 reqs.length) σ).log.map (·.1) := by
  intro i hi
  have g := good_run reqs hf s0 _ (good_init reqs s0 hs) σ
  have hlt : i < (Conc.run reqs (Conc.init s0 reqs.length) σ).ths.length := by
    rw [(run_frame reqs _ σ).2, Conc.init, List.length_replicate]
    exact hi
  have hall := List.all_eq_true.1 hd _ (List.getElem_mem hlt)
  split at hall
  · rename_i ρ ht
    exact List.mem_map.2 ⟨(i, ρ), g.thLog i ρ (.inr (by rw [List.getElem?_eq_getElem hlt, ht])), rfl⟩
  · cases hall

/-- run alone, a thread's atomic actions compose to the sequential handler: start, then at most five
steps, give the store and response of `Api.step` -/
theorem solo_run (r : Req) (s : Store) :
    let c := Conc.run [r] (Conc.init s 1) [.start 0, .step 0, .step 0, .step 0, .step 0, .step 0]
    c.store = (step s r).1 ∧ c.ths = [.done (step s r).2] ∧ c.lock = none := by
  cases hk : kind r with
  | unlocked =>
    simp [Conc.run, Conc.init, Conc.ev, Conc.setTh, hk]
  | lockedWrite =>
    simp [Conc.run, Conc.init, Conc.ev, Conc.setTh, hk]
  | rmw =>
    have := applyRMW_eq_step r s hk
    simp [Conc.run, Conc.init, Conc.ev, Conc.setTh, hk, this]

/-- expected repository / lock calls per handler (source order), from the thread shapes of the model -/
def expectedCalls : List (String × List String) :=
  [ ("getFiles", ["GetFiles"]),
    ("createFile", ["Lock", "SaveFile", "Unlock"]),
    ("getFile", ["GetFile"]),
    ("updateFileHeader", ["Lock", "defer Unlock", "GetFile", "SaveFile"]),
    ("deleteFile", ["Lock", "defer Unlock", "GetFile", "DeleteFile"]),
    ("getFileContents", ["GetFile"]),
    ("validateFile", ["GetFile"]),
    ("addCashLetterToFile", ["Lock", "defer Unlock", "GetFile", "SaveFile"]),
    ("removeCashLetterFromFile", ["Lock", "defer Unlock", "GetFile", "SaveFile"]),
    ("v2.createFile", ["SaveFile"]) ]

/-- the access pattern of every handler in the source is the one the model threads follow -/
theorem C12_access_table : Gen.handlerCalls = expectedCalls := by rfl

/-- lockset discipline on the regenerated table: a handler that performs more than one repository call,
or overwrites / deletes under a caller-chosen ID, holds `updateMu` from before its first call -/
def lockDisciplined (calls : List String) : Bool :=
  let repo := calls.filter (fun c => c = "GetFiles" ∨ c = "GetFile" ∨ c = "SaveFile" ∨ c = "DeleteFile")
  repo.length ≤ 1 ∨ (calls.take 2 = ["Lock", "defer Unlock"])

theorem C12_lockset : (Gen.handlerCalls.filter (fun p => p.1 ≠ "createFile")).all (fun p => lockDisciplined p.2) = true := by
  decide

/-- no handler assigns a variable it captures from the enclosing function (the per-route `logger`),
and the repository guards every method with its mutex -/
theorem C12_no_shared_writes : Gen.capturedWrites = [] ∧ Gen.repoMethodsLocked = true := by decide

/-- non-vacuity and the lost update the lock prevents: update-header and add-cash-letter on one file,
interleaved; with the lock the second handler cannot read before the first has saved -/
example :
    let f : AFile := ⟨"a", 1, [], 7⟩
    let reqs : List Req := [.updateHeader "a" (some 2), .addCL "a" (some ⟨"c", 9⟩)]
    let c := Conc.run reqs (Conc.init [("a", f)] 2)
      [.start 0, .start 1, .step 0, .step 1, .step 0, .step 1, .step 0, .step 0, .step 1, .step 1, .step 1, .step 1]
    c.store = [("a", ⟨"a", 2, [⟨"c", 9⟩], 7⟩)] ∧ c.allDone = true := by decide

end Icl.Api
