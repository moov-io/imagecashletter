/-
C01 — write-then-read returns the same file, in all four encodings.

Layered statement (DESIGN.md §7.1).  This file holds the tree-level and framing-level theorems; the layers are
  * C02 (`write_*`, `cols_*`, Props/C02.lean): every record is rendered in the transcribed columns;
  * C03 (`parse_*`, Props/C03.lean): every record is parsed from the same columns;
    (two statements about the same regenerated tables; the chain below does not use them: its per-record
    premise `RecOK` is discharged in Props/C01Rec.lean from the span check `LayoutOK` of Lemmas/RoundTrip.lean)
  * framing (below): the length-prefixed stream splits back into exactly the records written,
    for arbitrary record bytes (binary images and signatures included).
The field-level inverses are stated in Lemmas/ (see DESIGN.md for what is proved and what is covered by the
write/read correspondence stream only).
-/
import IclModel.Lemmas.Framing
import IclModel.Lemmas.Builder
import IclModel.Lemmas.WriterLink
import IclModel.Lemmas.Kind
namespace Icl.C01
open Icl Icl.C04

/-- length-prefix framing never changes content: splitting the writer's concatenation of
`prefix ++ record` returns exactly the records, with no trailing garbage, whatever bytes they hold -/
theorem framing_lp (ls : List Bytes) (h : ∀ l ∈ ls, l.length < 4294967296) :
    splitLP (joinLP ls) = (ls, true) := splitLP_joinLP ls h

theorem readLines_append (m : Model) (e : Enc) (l1 l2 : List Bytes) (s : RState) :
    readLines m e (l1 ++ l2) s =
      match readLines m e l1 s with
      | (s1, none) => readLines m e l2 s1
      | (s1, some er) => (s1, some er) := by
  induction l1 generalizing s with
  | nil => simp [readLines]
  | cons l r ih =>
    simp only [List.cons_append, readLines]
    split
    · rfl
    · split
      · rw [ih]
      · rfl

def fileLines (ln : Kind → Vals → Bytes) (f : File Vals) : List Bytes :=
  [ln .fileHeader f.header] ++ (f.cashLetters.flatMap (clRecs ln)).map (·.2.2) ++ [ln .fileControl f.control]

/-- every record of the file, rendered by `ln`, is a line of its kind that the reader decodes back to
the record; every container is well formed and passes the container-level validation of the reader -/
structure FileOK (m : Model) (e : Enc) (ln : Kind → Vals → Bytes) (f : File Vals) : Prop where
  hdrKind : kindOfLine (ln .fileHeader f.header) = some .fileHeader
  hdrLen : 80 ≤ (ln .fileHeader f.header).length
  hdrRunes : runeCount ((if e.ebcdic then m.cm.decode else id) (ln .fileHeader f.header)) = 80
  hdrParse : parseValidate m .fileHeader id ((if e.ebcdic then m.cm.decode else id) (ln .fileHeader f.header))
      ((m.layout .fileHeader).new m.now) = .ok f.header
  ctlKind : kindOfLine (ln .fileControl f.control) = some .fileControl
  ctlLen : 80 ≤ (ln .fileControl f.control).length
  ctlParse : parseValidate m .fileControl id ((if e.ebcdic then m.cm.decode else id) (ln .fileControl f.control)) {} = .ok f.control
  ctlType : (f.control.s "recordType").isEmpty = false
  cashLetters : ∀ cl ∈ f.cashLetters, CashLetterOK m e ln cl

/-- **C01, tree level** (model reader): reading the lines of a well-formed file, each of which decodes to
its record, returns exactly that file - every record under its parent, in order, nothing else - and
passes the reader's end-of-input checks -/
theorem C01_reassemble (m : Model) (e : Enc) (ln : Kind → Vals → Bytes) (f : File Vals) (h : FileOK m e ln f) :
    ∃ s, readLines m e (fileLines ln f) (initState m) = (s, none) ∧ s.file = f ∧
      s.headerUntouched = false ∧ (s.control.s "recordType").isEmpty = false ∧ s.cur.header.isSome = false := by
  let s2 : RState := { initState m with lineNum := 1, recordName := "FileHeader", header := f.header, headerUntouched := false }
  have hs2 : rstep m e { initState m with lineNum := (initState m).lineNum + 1 } (ln .fileHeader f.header) = .ok s2 :=
    (rstep_ok_iff m e _ _ _ _ h.hdrKind).2 ⟨f.header, h.hdrParse, by simp [accept, s2, initState, h.hdrRunes]⟩
  obtain ⟨s3, hr3, hc3, hh3, hctl3, hu3⟩ :=
    readLines_of_runs m e _ _ s2 (runs_cashLetters m e ln f.cashLetters [] h.cashLetters)
  have hcur3 : s3.cur = { header := none, control := none } := congrArg Core.cur hc3
  have hcl3 : s3.cashLetters = f.cashLetters := congrArg Core.cashLetters hc3
  have hctl3' : s3.control = {} := hctl3
  let s5 : RState := { s3 with lineNum := s3.lineNum + 1, recordName := "FileControl", control := f.control }
  have hs5 : rstep m e { s3 with lineNum := s3.lineNum + 1 } (ln .fileControl f.control) = .ok s5 :=
    (rstep_ok_iff m e _ _ _ _ h.ctlKind).2 ⟨f.control,
      by show parseValidate m .fileControl id _ s3.control = _; rw [hctl3']; exact h.ctlParse,
      by simp [accept, hctl3', hcur3, s5]⟩
  refine ⟨s5, ?_, ?_, hu3, h.ctlType, by simp [s5, hcur3]⟩
  · unfold fileLines
    rw [List.append_assoc, List.singleton_append,
      readLines_cons_ok (by rw [minLen_of_kind m e _ _ h.hdrKind (by simp)]; exact h.hdrLen) hs2,
      readLines_append, hr3]
    exact readLines_cons_ok (by rw [minLen_of_kind m e _ _ h.ctlKind (by simp)]; exact h.ctlLen) hs5
  · simp [RState.file, s5, hcl3, hh3, s2]

/-- **C01, length-prefixed framing, end to end on the model reader**: the length-prefixed stream of the
lines of a well-formed file reads back as exactly that file (arbitrary record bytes: binary images and
signatures included) -/
theorem C01_roundtrip_lp (m : Model) (e : Enc) (ln : Kind → Vals → Bytes) (f : File Vals) (hlp : e.lp = true)
    (h : FileOK m e ln f) (hlen : ∀ l ∈ fileLines ln f, l.length < 4294967296) :
    readFile m e (joinLP (fileLines ln f)) = (f, none) := by
  obtain ⟨s, hr, hf, hd⟩ := C01_reassemble m e ln f h
  rw [readFile_ok_iff, hlp, if_pos rfl, framing_lp _ hlen]
  exact ⟨s, hr, rfl, hd, hf⟩

/-- **C01, newline framing**: the same when no line contains a line feed or ends in a carriage return -/
theorem C01_roundtrip_nl (m : Model) (e : Enc) (ln : Kind → Vals → Bytes) (f : File Vals) (hlp : e.lp = false)
    (h : FileOK m e ln f) (hno : ∀ l ∈ fileLines ln f, (0x0A : UInt8) ∉ l) (hcr : ∀ l ∈ fileLines ln f, dropCR l = l) :
    readFile m e (joinNL (fileLines ln f)) = (f, none) := by
  obtain ⟨s, hr, hf, hd⟩ := C01_reassemble m e ln f h
  rw [readFile_ok_iff, hlp, if_neg Bool.false_ne_true, splitNL_joinNL _ hno, List.map_congr_left hcr, List.map_id']
  exact ⟨s, hr, rfl, hd, hf⟩

/-- structural well-formedness the writer walk needs to emit every record of the tree: container header
and control records present, every routing number summary present -/
def TreeWF (f : File Vals) : Prop :=
  ∀ cl ∈ f.cashLetters, (∃ h c, cl.header = some h ∧ cl.control = some c) ∧ (∀ r ∈ cl.rns, r.isSome = true) ∧
    (∀ b ∈ cl.bundles, ∃ bh bc, b.header = some bh ∧ b.control = some bc)

theorem treeWF_some (f : File Vals) (hwf : TreeWF f) :
    ∀ kr ∈ f.cashLetters.flatMap CashLetter.flatten, kr.2.isSome = true := by
  simp only [List.forall_mem_flatMap]
  intro cl hcl
  obtain ⟨⟨h, c, hh, hc⟩, hr, hb⟩ := hwf cl hcl
  simp only [CashLetter.flatten, Bundle.flatten, Item.flatten, optRec_eq, hh, hc, List.forall_mem_append, List.forall_mem_map,
    List.forall_mem_flatMap, List.forall_mem_singleton, Option.isSome_some, implies_true, and_self, and_true, true_and,
    if_true, Bool.false_eq_true, if_false, List.not_mem_nil, false_imp_iff]
  refine ⟨fun b hb' => ?_, hr⟩
  obtain ⟨bh, bc, h1, h2⟩ := hb b hb'
  exact ⟨h1 ▸ rfl, h2 ▸ rfl⟩

theorem flatten_eq_fileRecs (m : Model) (e : Enc) (f : File Vals) (hwf : TreeWF f) :
    f.flatten = [(Kind.fileHeader, some f.header)] ++ (f.cashLetters.flatMap (clRecs (bodyLn m e))).map unrec ++
      [(Kind.fileControl, some f.control)] := by
  rw [List.map_flatMap, funext (clRecs_unrec (bodyLn m e)), ← List.filter_flatMap, List.filter_eq_self.2 (treeWF_some f hwf)]
  rfl

theorem writeFile_recs (m : Model) (e : Enc) (f : File Vals) (bytes : Bytes)
    (hw : writeFile m e f = some bytes) (hwf : TreeWF f) :
    ∃ krs : List (Kind × Vals), f.flatten = krs.map (fun kv => (kv.1, some kv.2)) ∧
      (∀ kv ∈ krs, (writeLine m e kv.1 (some kv.2)).isSome = true) ∧
      bytes = krs.flatMap (fun kv => (writeLine m e kv.1 (some kv.2)).getD []) ∧
      krs.map (fun kv => bodyLn m e kv.1 kv.2) = fileLines (bodyLn m e) f := by
  rw [writeFile_eq] at hw
  obtain ⟨hc, ⟨⟩⟩ := Option.ite_none_right_eq_some.1 hw
  simp only [Bool.and_eq_true, List.all_eq_true] at hc
  let krs : List (Kind × Vals) :=
    [(Kind.fileHeader, f.header)] ++ (f.cashLetters.flatMap (clRecs (bodyLn m e))).map (fun r => (r.1, r.2.1)) ++
      [(Kind.fileControl, f.control)]
  have hkrs : f.flatten = krs.map (fun kv => (kv.1, some kv.2)) := by
    rw [flatten_eq_fileRecs m e f hwf]
    simp [krs, unrec, Function.comp_def]
  have hall := hc.2
  rw [hkrs, List.forall_mem_map] at hall
  refine ⟨krs, hkrs, hall, ?_, ?_⟩
  · rw [hkrs, List.flatMap_map]
  · have hmid : (f.cashLetters.flatMap (clRecs (bodyLn m e))).map (fun r => bodyLn m e r.1 r.2.1) = _ :=
      List.map_congr_left (List.forall_mem_flatMap.2 fun cl _ r h => (clRecs_line _ cl r h).symm)
    simp only [krs, fileLines, List.map_append, List.map_cons, List.map_nil, List.map_map, Function.comp_def, hmid]

theorem framed_eq_joinLP (m : Model) (e : Enc) (hlp : e.lp = true) :
    ∀ (krs : List (Kind × Vals)),
      (∀ kv ∈ krs, (writeLine m e kv.1 (some kv.2)).isSome = true) →
      (∀ kv ∈ krs, (bodyLn m e kv.1 kv.2).length = (lineOf m kv.1 (some kv.2)).length) →
      krs.flatMap (fun kv => (writeLine m e kv.1 (some kv.2)).getD []) = joinLP (krs.map (fun kv => bodyLn m e kv.1 kv.2)) ∧
      ∀ kv ∈ krs, (bodyLn m e kv.1 kv.2).length < 4294967296 := by
  intro krs hw hl
  have h : ∀ kv ∈ krs, (writeLine m e kv.1 (some kv.2)).getD [] = be32 (bodyLn m e kv.1 kv.2).length ++ bodyLn m e kv.1 kv.2 ∧
      (bodyLn m e kv.1 kv.2).length < 4294967296 := fun kv hkv => by
    obtain ⟨x, hx⟩ := Option.isSome_iff_exists.1 (hw kv hkv)
    rw [hx]
    exact writeLine_lp m e hlp kv.1 kv.2 x hx (hl kv hkv)
  rw [joinLP, List.flatMap_map, List.flatMap_def, List.flatMap_def]
  exact ⟨congrArg List.flatten (List.map_congr_left fun kv hkv => (h kv hkv).1), fun kv hkv => (h kv hkv).2⟩

/-- **C01 on the model, length-prefixed framing, writer to reader**: if the model writer accepts a
well-formed file, every record body has the length its prefix announces (true of every record under
ASCII; `ebcdic_translit` / `ebcdic_ivData` of C08 for EBCDIC), and every record's body decodes back to
the record, then reading what was written returns the file -/
theorem C01_write_read_lp (m : Model) (e : Enc) (f : File Vals) (bytes : Bytes) (hlp : e.lp = true)
    (hw : writeFile m e f = some bytes) (hwf : TreeWF f)
    (hbody : ∀ kr ∈ f.flatten, ∀ v, kr.2 = some v → (bodyLn m e kr.1 v).length = (lineOf m kr.1 (some v)).length)
    (hok : FileOK m e (bodyLn m e) f) :
    readFile m e bytes = (f, none) := by
  obtain ⟨krs, hkrs, hw', hbytes, hlines⟩ := writeFile_recs m e f bytes hw hwf
  rw [hkrs, List.forall_mem_map] at hbody
  obtain ⟨hj, hlt⟩ := framed_eq_joinLP m e hlp krs hw' fun kv hkv => hbody kv hkv kv.2 rfl
  rw [hbytes, hj, hlines]
  refine C01_roundtrip_lp m e (bodyLn m e) f hlp hok ?_
  rw [← hlines, List.forall_mem_map]
  exact hlt

theorem framed_eq_joinNL (m : Model) (e : Enc) (hlp : e.lp = false) :
    ∀ (krs : List (Kind × Vals)), (∀ kv ∈ krs, (writeLine m e kv.1 (some kv.2)).isSome = true) →
      krs.flatMap (fun kv => (writeLine m e kv.1 (some kv.2)).getD []) = joinNL (krs.map (fun kv => bodyLn m e kv.1 kv.2)) := by
  intro krs hw
  rw [joinNL, List.flatMap_map, List.flatMap_def, List.flatMap_def]
  exact congrArg List.flatten (List.map_congr_left fun kv hkv => writeLine_nl m e hlp kv.1 kv.2 (hw kv hkv))

/-- **C01 on the model, newline framing, writer to reader**: as `C01_write_read_lp`, for files none of whose
records holds a line feed or ends in a carriage return (which newline framing cannot carry) -/
theorem C01_write_read_nl (m : Model) (e : Enc) (f : File Vals) (bytes : Bytes) (hlp : e.lp = false)
    (hw : writeFile m e f = some bytes) (hwf : TreeWF f) (hok : FileOK m e (bodyLn m e) f)
    (hno : ∀ l ∈ fileLines (bodyLn m e) f, (0x0A : UInt8) ∉ l) (hcr : ∀ l ∈ fileLines (bodyLn m e) f, dropCR l = l) :
    readFile m e bytes = (f, none) := by
  obtain ⟨krs, -, hw', hbytes, hlines⟩ := writeFile_recs m e f bytes hw hwf
  rw [hbytes, framed_eq_joinNL m e hlp krs hw', hlines]
  exact C01_roundtrip_nl m e (bodyLn m e) f hlp hok hno hcr

/-- under ASCII the body of a record is the record: the length premise is void -/
theorem C01_write_read_lp_ascii (m : Model) (e : Enc) (f : File Vals) (bytes : Bytes) (hlp : e.lp = true) (ha : e.ebcdic = false)
    (hw : writeFile m e f = some bytes) (hwf : TreeWF f) (hok : FileOK m e (bodyLn m e) f) :
    readFile m e bytes = (f, none) := by
  refine C01_write_read_lp m e f bytes hlp hw hwf ?_ hok
  intro kr _ v _
  simp [bodyLn, bodyOf, ha]

end Icl.C01
