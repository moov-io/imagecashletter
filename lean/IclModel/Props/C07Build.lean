/-
`CashLetter.build` of cashLetter.go and the setters it calls are TRANSLATED statement by statement into Lean
(Gen/ClBuildT.lean, regenerated on every run): the in-place numbering of bundles, items and addenda through pointers
becomes loops that return the renumbered lists.  Theorem `clbuild_eq_model`: for every cash letter the translation and
the build model (`cashLetterBuild`, Build.lean - the function the C06 / C07 / C09 / C17 theorems speak about) return the
same result: the same error, or the same cash letter with the same numbers in every record and the same control record.
-/
import IclModel.Gen.ClBuildT
import IclModel.Props.C06Build
import IclModel.Lemmas.Number
namespace Icl.ClBuildEq
open Icl Icl.BuildRT Icl.BuildEq

theorem forMap_nil {α : Type} (σ : Env) (f : α → Env → α × Env) : forMap [] σ f = ([], σ) := rfl

/-- `CashLetter.build`: the body of the four addenda loops: stamp the item's number, stamp the record number, advance it, wrap it -/
def addBody (sv rv fld : String) (L : Int) (conv : Int → Bytes) (r : Vals) (σ : Env) : Vals × Env :=
  let r := r.setS fld (conv (σ.get sv))
  let r := r.setI "RecordNumber" (σ.get rv)
  let σ := σ.set rv ((σ.get rv) + (1 : Int))
  let σ := if decide ((σ.get rv) > L) then (
      let σ := σ.set rv (1 : Int)
      σ) else σ
  (r, σ)

theorem addBody_fst (sv rv fld : String) (L : Int) (conv : Int → Bytes) (r : Vals) (σ : Env) :
    (addBody sv rv fld L conv r σ).1 = (r.setS fld (conv (σ.get sv))).setI "RecordNumber" (σ.get rv) := rfl

theorem addBody_get_other (sv rv fld : String) (L : Int) (conv : Int → Bytes) (r : Vals) (σ : Env) (k : String) (hk : rv ≠ k) :
    (addBody sv rv fld L conv r σ).2.get k = σ.get k := by
  unfold addBody
  dsimp only
  split <;> simp [get_set, hk]

theorem addBody_get_rv (sv rv fld : String) (L : Nat) (hL : 0 < L) (conv : Int → Bytes) (r : Vals) (σ : Env) (j : Nat)
    (h : σ.get rv = ((j % L + 1 : Nat) : Int)) :
    (addBody sv rv fld (L : Int) conv r σ).2.get rv = (((j + 1) % L + 1 : Nat) : Int) := by
  unfold addBody
  dsimp only
  simp only [get_set, if_true, h]
  have hlt := Nat.mod_lt j hL
  rw [← Nat.mod_add_mod j L 1]
  by_cases hw : j % L + 1 = L
  · rw [if_pos (by simp only [decide_eq_true_eq]; omega), hw, Nat.mod_self]
    simp only [get_set, if_true]
    rfl
  · have hlt' : j % L + 1 < L := by omega
    rw [if_neg (by simp only [decide_eq_true_eq]; omega), Nat.mod_eq_of_lt hlt']
    simp only [get_set, if_true]
    omega

def recFrom (L j n : Nat) : List Int := (List.range n).map (fun i => (((i + j) % L + 1 : Nat) : Int))

theorem recFrom_zero (L n : Nat) : recFrom L 0 n = recNums L n := by
  unfold recFrom recNums
  simp

theorem recFrom_succ (L j n : Nat) : recFrom L j (n + 1) = ((j % L + 1 : Nat) : Int) :: recFrom L (j + 1) n := by
  unfold recFrom
  rw [List.range_succ_eq_map]
  simp only [List.map_cons, List.map_map, Nat.zero_add, List.cons.injEq, true_and]
  apply List.map_congr_left
  intro i _
  simp only [Function.comp]
  have : i + 1 + j = i + (j + 1) := by omega
  rw [this]

theorem addLoop_get (sv rv fld : String) (L : Int) (conv : Int → Bytes) (k : String) (hk : rv ≠ k) :
    ∀ (l : List Vals) (σ : Env), (forMap l σ (addBody sv rv fld L conv)).2.get k = σ.get k
  | [], _ => rfl
  | x :: r, σ => by rw [forMap_cons, addLoop_get sv rv fld L conv k hk r, addBody_get_other sv rv fld L conv x σ k hk]

/-- an addenda loop stamps the item's number and the record numbers 1..L, 1.. and touches no other local -/
theorem addLoop (sv rv fld : String) (L : Nat) (hL : 0 < L) (conv : Int → Bytes) (hne : rv ≠ sv) :
    ∀ (l : List Vals) (σ : Env) (j : Nat), σ.get rv = ((j % L + 1 : Nat) : Int) →
      (forMap l σ (addBody sv rv fld (L : Int) conv)).1 =
        zipSet l (fun v n => (v.setS fld (conv (σ.get sv))).setI "RecordNumber" n) (recFrom L j l.length) ∧
      (∀ k, rv ≠ k → (forMap l σ (addBody sv rv fld (L : Int) conv)).2.get k = σ.get k) := by
  intro l
  induction l with
  | nil => intro σ j _; exact ⟨rfl, fun _ _ => rfl⟩
  | cons x r ih =>
    intro σ j h
    refine ⟨?_, fun k hk => addLoop_get sv rv fld L conv k hk _ σ⟩
    rw [forMap_cons, (ih _ (j + 1) (addBody_get_rv sv rv fld L hL conv x σ j h)).1]
    simp only [addBody_fst, List.length_cons, recFrom_succ, zipSet, List.zip_cons_cons, List.map_cons, h,
      addBody_get_other sv rv fld (L : Int) conv x σ sv hne]

theorem addLoop_fst (sv rv fld : String) (L : Nat) (hL : 0 < L) (conv : Int → Bytes) (hne : rv ≠ sv) (l : List Vals) (σ : Env)
    (h : σ.get rv = 1) :
    (forMap l σ (addBody sv rv fld (L : Int) conv)).1 =
      zipSet l (fun v n => (v.setS fld (conv (σ.get sv))).setI "RecordNumber" n) (recNums L l.length) := by
  rw [← recFrom_zero]
  exact (addLoop sv rv fld L hL conv hne l σ 0 (by rw [h, Nat.zero_mod]; rfl)).1

/-- `CashLetter.build`, head of the loop over `b.Checks`: a supplied item sequence number replaces the running counter -/
def preC (cd : Item Vals) (σ : Env) : Env :=
  if (!(cd.detail.s "EceInstitutionItemSequenceNumber").isEmpty) then (
      let σ := σ.set "i" (parseNum (cd.detail.s "EceInstitutionItemSequenceNumber"))
      let σ := σ.set "cdSequenceNumber" (σ.get "i")
      σ) else σ

/-- the same at the head of the loop over `b.Returns` -/
def preR (rd : Item Vals) (σ : Env) : Env :=
  if (!(rd.detail.s "EceInstitutionItemSequenceNumber").isEmpty) then (
      let σ := σ.set "rdSequenceNumber" (parseNum (rd.detail.s "EceInstitutionItemSequenceNumber"))
      σ) else σ

/-- `CashLetter.build`: the body of the loop over the forward items of a bundle -/
def itemC (cd : Item Vals) (σ : Env) : Item Vals × Env :=
  let σ := preC cd σ
  let σ := σ.set "cdAddendumARecordNumber" (1 : Int)
  let σ := σ.set "cdAddendumCRecordNumber" (1 : Int)
  let cd := { cd with detail := cd.detail.setS "EceInstitutionItemSequenceNumber" (numericField (σ.get "cdSequenceNumber") 15) }
  let la := forMap cd.addA σ (addBody "cdSequenceNumber" "cdAddendumARecordNumber" "BOFDItemSequenceNumber" (9 : Nat) (fun n => numericField n 15))
  let cd := { cd with addA := la.1 }
  let lc := forMap cd.addC la.2 (addBody "cdSequenceNumber" "cdAddendumCRecordNumber" "EndorsingBankItemSequenceNumber" (99 : Nat) itoa)
  let cd := { cd with addC := lc.1 }
  let σ := lc.2
  let σ := σ.set "cdSequenceNumber" ((σ.get "cdSequenceNumber") + (1 : Int))
  let σ := σ.set "cashLetterItemsCount" ((σ.get "cashLetterItemsCount") + (1 : Int))
  let σ := σ.set "cashLetterTotalAmount" ((σ.get "cashLetterTotalAmount") + cd.detail.i "ItemAmount")
  let σ := σ.set "cashLetterImagesCount" ((σ.get "cashLetterImagesCount") + (cd.ivDetail.length : Int))
  (cd, σ)

/-- `CashLetter.build`: the body of the loop over the return items of a bundle -/
def itemR (rd : Item Vals) (σ : Env) : Item Vals × Env :=
  let σ := preR rd σ
  let σ := σ.set "rdAddendumARecordNumber" (1 : Int)
  let σ := σ.set "rdAddendumDRecordNumber" (1 : Int)
  let rd := { rd with detail := rd.detail.setS "EceInstitutionItemSequenceNumber" (itoa (σ.get "rdSequenceNumber")) }
  let la := forMap rd.addA σ (addBody "rdSequenceNumber" "rdAddendumARecordNumber" "BOFDItemSequenceNumber" (9 : Nat) itoa)
  let rd := { rd with addA := la.1 }
  let ld := forMap rd.addD la.2 (addBody "rdSequenceNumber" "rdAddendumDRecordNumber" "EndorsingBankItemSequenceNumber" (99 : Nat) itoa)
  let rd := { rd with addD := ld.1 }
  let σ := ld.2
  let σ := σ.set "rdSequenceNumber" ((σ.get "rdSequenceNumber") + (1 : Int))
  let σ := σ.set "cashLetterItemsCount" ((σ.get "cashLetterItemsCount") + (1 : Int))
  let σ := σ.set "cashLetterTotalAmount" ((σ.get "cashLetterTotalAmount") + rd.detail.i "ItemAmount")
  let σ := σ.set "cashLetterImagesCount" ((σ.get "cashLetterImagesCount") + (rd.ivDetail.length : Int))
  (rd, σ)

/-- the locals of `CashLetter.build` that outlive an item -/
structure View where
  bsn : Int
  bcount : Int
  credit : Int
  items : Int
  amount : Int
  images : Int

def view (σ : Env) : View :=
  ⟨σ.get "bundleSequenceNumber", σ.get "cashLetterBundleCount", σ.get "creditIndicator", σ.get "cashLetterItemsCount",
    σ.get "cashLetterTotalAmount", σ.get "cashLetterImagesCount"⟩

theorem view_ext (a b : View) (h1 : a.bsn = b.bsn) (h2 : a.bcount = b.bcount) (h3 : a.credit = b.credit)
    (h4 : a.items = b.items) (h5 : a.amount = b.amount) (h6 : a.images = b.images) : a = b := by
  cases a; cases b; simp_all

theorem preC_get (cd : Item Vals) (σ : Env) (k : String) (h : "i" ≠ k) :
    (preC cd σ).get k = if "cdSequenceNumber" = k then seqOf (σ.get "cdSequenceNumber") cd else σ.get k := by
  unfold preC seqOf
  cases (cd.detail.s "EceInstitutionItemSequenceNumber").isEmpty <;> simp [get_set, h]
  rintro rfl; rfl

theorem preR_get (rd : Item Vals) (σ : Env) (k : String) :
    (preR rd σ).get k = if "rdSequenceNumber" = k then seqOf (σ.get "rdSequenceNumber") rd else σ.get k := by
  unfold preR seqOf
  cases (rd.detail.s "EceInstitutionItemSequenceNumber").isEmpty <;> simp [get_set]
  rintro rfl; rfl

abbrev bodyCA := addBody "cdSequenceNumber" "cdAddendumARecordNumber" "BOFDItemSequenceNumber" (9 : Nat) (fun n => numericField n 15)
abbrev bodyCC := addBody "cdSequenceNumber" "cdAddendumCRecordNumber" "EndorsingBankItemSequenceNumber" (99 : Nat) itoa
abbrev bodyRA := addBody "rdSequenceNumber" "rdAddendumARecordNumber" "BOFDItemSequenceNumber" (9 : Nat) itoa
abbrev bodyRD := addBody "rdSequenceNumber" "rdAddendumDRecordNumber" "EndorsingBankItemSequenceNumber" (99 : Nat) itoa

theorem itemC_spec (cd : Item Vals) (σ : Env) :
    (itemC cd σ).1 =
      { cd with
        detail := cd.detail.setS "EceInstitutionItemSequenceNumber" (numericField (seqOf (σ.get "cdSequenceNumber") cd) 15),
        addA := zipSet cd.addA (fun v n => (v.setS "BOFDItemSequenceNumber" (numericField (seqOf (σ.get "cdSequenceNumber") cd) 15)).setI "RecordNumber" n) (recNums 9 cd.addA.length),
        addC := zipSet cd.addC (fun v n => (v.setS "EndorsingBankItemSequenceNumber" (itoa (seqOf (σ.get "cdSequenceNumber") cd))).setI "RecordNumber" n) (recNums 99 cd.addC.length) } ∧
    (itemC cd σ).2.get "cdSequenceNumber" = seqOf (σ.get "cdSequenceNumber") cd + 1 ∧
    view (itemC cd σ).2 = { view σ with items := (view σ).items + 1, amount := (view σ).amount + cd.detail.i "ItemAmount",
                                         images := (view σ).images + (cd.ivDetail.length : Int) } := by
  unfold itemC
  simp only [view, addLoop_fst, addLoop_get, get_set, String.reduceEq, ne_eq, not_false_eq_true, Nat.reduceLT, ↓reduceIte, preC_get,
    Vals.setS_i, and_self]

theorem itemR_spec (rd : Item Vals) (σ : Env) :
    (itemR rd σ).1 =
      { rd with
        detail := rd.detail.setS "EceInstitutionItemSequenceNumber" (itoa (seqOf (σ.get "rdSequenceNumber") rd)),
        addA := zipSet rd.addA (fun v n => (v.setS "BOFDItemSequenceNumber" (itoa (seqOf (σ.get "rdSequenceNumber") rd))).setI "RecordNumber" n) (recNums 9 rd.addA.length),
        addD := zipSet rd.addD (fun v n => (v.setS "EndorsingBankItemSequenceNumber" (itoa (seqOf (σ.get "rdSequenceNumber") rd))).setI "RecordNumber" n) (recNums 99 rd.addD.length) } ∧
    (itemR rd σ).2.get "rdSequenceNumber" = seqOf (σ.get "rdSequenceNumber") rd + 1 ∧
    view (itemR rd σ).2 = { view σ with items := (view σ).items + 1, amount := (view σ).amount + rd.detail.i "ItemAmount",
                                         images := (view σ).images + (rd.ivDetail.length : Int) } := by
  unfold itemR
  simp only [view, addLoop_fst, addLoop_get, get_set, String.reduceEq, ne_eq, not_false_eq_true, Nat.reduceLT, ↓reduceIte, preR_get,
    Vals.setS_i, and_self]

theorem forMap_numberWith (body : Item Vals → Env → Item Vals × Env) (key : String) (stamp : Int → Item Vals → Item Vals)
    (hb : ∀ x σ, (body x σ).1 = stamp (seqOf (σ.get key) x) x ∧ (body x σ).2.get key = seqOf (σ.get key) x + 1 ∧
      view (body x σ).2 = { view σ with items := (view σ).items + 1, amount := (view σ).amount + x.detail.i "ItemAmount",
                                        images := (view σ).images + (x.ivDetail.length : Int) }) :
    ∀ (l : List (Item Vals)) (σ : Env),
    (forMap l σ body).1 = numberWith stamp (σ.get key) l ∧
    view (forMap l σ body).2 = { view σ with items := (view σ).items + (l.length : Int), amount := (view σ).amount + amountOf l,
                                             images := (view σ).images + imagesOf l } := by
  intro l
  induction l with
  | nil => intro σ; refine ⟨rfl, ?_⟩; apply view_ext <;> simp [forMap_nil, amountOf, imagesOf, sumInt_nil]
  | cons x r ih =>
    intro σ
    obtain ⟨s1, s2, s3⟩ := hb x σ
    obtain ⟨i1, i2⟩ := ih (body x σ).2
    rw [forMap_cons]
    refine ⟨?_, ?_⟩
    · simp only [i1, s1, s2, numberWith]
    · rw [i2, s3]
      apply view_ext <;> simp only [amountOf, imagesOf, List.length_cons, List.map_cons, sumInt_cons] <;> omega

theorem checksLoop : ∀ (l : List (Item Vals)) (σ : Env),
    (forMap l σ itemC).1 = numberChecks (σ.get "cdSequenceNumber") l ∧
    view (forMap l σ itemC).2 = { view σ with items := (view σ).items + (l.length : Int), amount := (view σ).amount + amountOf l,
                                               images := (view σ).images + imagesOf l } := by
  intro l σ
  rw [numberChecks_eq]
  exact forMap_numberWith itemC "cdSequenceNumber" stampC itemC_spec l σ

theorem returnsLoop : ∀ (l : List (Item Vals)) (σ : Env),
    (forMap l σ itemR).1 = numberReturns (σ.get "rdSequenceNumber") l ∧
    view (forMap l σ itemR).2 = { view σ with items := (view σ).items + (l.length : Int), amount := (view σ).amount + amountOf l,
                                               images := (view σ).images + imagesOf l } := by
  intro l σ
  rw [numberReturns_eq]
  exact forMap_numberWith itemR "rdSequenceNumber" stampR itemR_spec l σ

theorem numberWith_facts (stamp : Int → Item Vals → Item Vals)
    (ha : ∀ s it, (stamp s it).detail.i "ItemAmount" = it.detail.i "ItemAmount")
    (hi : ∀ s it, ((stamp s it).ivDetail.length : Int) = it.ivDetail.length) (l : List (Item Vals)) (c : Int) :
    (numberWith stamp c l).length = l.length ∧ amountOf (numberWith stamp c l) = amountOf l ∧
      imagesOf (numberWith stamp c l) = imagesOf l := by
  unfold amountOf imagesOf
  rw [numberWith_length, numberWith_map stamp _ ha, numberWith_map stamp _ hi]
  exact ⟨rfl, rfl, rfl⟩

/-- `CashLetter.build`: the body of the loop over the bundles -/
def genB (m : Model) (b : Bundle Vals) (σ : Env) : Except BErr (Bundle Vals × Env) :=
  let b := { b with header := b.header.map (fun (r : Vals) => r.setS "BundleSequenceNumber" (numericField (σ.get "bundleSequenceNumber") 4)) }
  let σ := σ.set "cdSequenceNumber" (1 : Int)
  let lc := forMap b.checks σ itemC
  let b := { b with checks := lc.1 }
  let σ := lc.2.set "rdSequenceNumber" (1 : Int)
  let lr := forMap b.returns σ itemR
  let b := { b with returns := lr.1 }
  let σ := lr.2
  match bundleValidate b with
  | some fld => .error (ErrClass.bundle, fld)
  | none =>
    match Gen.B.build m b with
    | .error e => .error e
    | .ok b => .ok (b, σ.set "bundleSequenceNumber" ((σ.get "bundleSequenceNumber") + (1 : Int)))

theorem genB_spec (m : Model) (b : Bundle Vals) (h : Vals) (hb : b.header = some h) (σ : Env) (n : Nat)
    (hn : σ.get "bundleSequenceNumber" = (n : Int)) :
    ∃ σ', view σ' = { view σ with bsn := (n : Int) + 1, items := (view σ).items + ((itemsB b).length : Int),
                                  amount := (view σ).amount + amountOf (itemsB b), images := (view σ).images + imagesOf (itemsB b) } ∧
      genB m b σ =
        match bundleValidate (numberB n b h) with
        | some fld => .error (ErrClass.bundle, fld)
        | none =>
          match bundleBuild m (numberB n b h) with
          | .error e => .error e
          | .ok b2 => .ok (b2, σ') := by
  unfold genB
  dsimp only
  obtain ⟨c1, c2⟩ := checksLoop b.checks (σ.set "cdSequenceNumber" (1 : Int))
  generalize forMap b.checks (σ.set "cdSequenceNumber" (1 : Int)) itemC = lc at c1 c2 ⊢
  obtain ⟨r1, r2⟩ := returnsLoop b.returns (lc.2.set "rdSequenceNumber" (1 : Int))
  generalize forMap b.returns (lc.2.set "rdSequenceNumber" (1 : Int)) itemR = lr at r1 r2 ⊢
  rw [get_set, if_pos rfl] at c1 r1
  simp only [view, get_set, String.reduceEq, ↓reduceIte, View.mk.injEq] at c2 r2
  refine ⟨lr.2.set "bundleSequenceNumber" ((lr.2.get "bundleSequenceNumber") + (1 : Int)), ?_, ?_⟩
  · apply view_ext <;>
      simp only [view, get_set, String.reduceEq, ↓reduceIte, r2, c2, hn, itemsB, amountOf, imagesOf,
        List.length_append, List.map_append, sumInt_append] <;> omega
  · have hB : ({ header := Option.map (fun (r : Vals) => r.setS "BundleSequenceNumber" (numericField (σ.get "bundleSequenceNumber") 4)) b.header,
                 checks := lc.1, returns := lr.1, control := b.control } : Bundle Vals) = numberB n b h := by
      rw [c1, r1, hb, hn]; rfl
    rw [hB, build_eq_model]

theorem bundlesLoop (m : Model) : ∀ (l : List (Bundle Vals)) (σ : Env) (n : Nat),
    (∀ b ∈ l, b.header.isSome = true) → σ.get "bundleSequenceNumber" = (n : Int) →
    (∃ e, forMapE l σ (genB m) = .error e ∧ buildBundles m n l = .error e) ∨
    (∃ bs σ', forMapE l σ (genB m) = .ok (bs, σ') ∧ buildBundles m n l = .ok bs ∧ bs.length = l.length ∧
      view σ' = { view σ with bsn := (n : Int) + (l.length : Int),
                              items := (view σ).items + ((bs.flatMap itemsB).length : Int),
                              amount := (view σ).amount + amountOf (bs.flatMap itemsB),
                              images := (view σ).images + imagesOf (bs.flatMap itemsB) }) := by
  intro l
  induction l with
  | nil =>
    intro σ n _ hn
    refine Or.inr ⟨[], σ, rfl, rfl, rfl, ?_⟩
    apply view_ext <;> simp [amountOf, imagesOf, sumInt_nil]
    simp only [view, hn]
  | cons b r ih =>
    intro σ n hall hn
    have hbs : b.header.isSome = true := hall b (by simp)
    cases hb : b.header with
    | none => rw [hb] at hbs; cases hbs
    | some h =>
      obtain ⟨σ1, hv1, hg⟩ := genB_spec m b h hb σ n hn
      simp only [forMapE, buildBundles_cons m n b r h hb, hg]
      cases hval : bundleValidate (numberB n b h) with
      | some fld => exact Or.inl ⟨_, rfl, rfl⟩
      | none =>
        cases hbb : bundleBuild m (numberB n b h) with
        | error e => exact Or.inl ⟨_, rfl, rfl⟩
        | ok b2 =>
          dsimp only
          have hb2 := bundleBuild_ok m _ _ hbb
          rcases ih σ1 (n + 1) (fun x hx => hall x (by simp [hx])) (congrArg View.bsn hv1) with ⟨e, h1, h2⟩ | ⟨bs, σ2, h1, h2, h3, h4⟩
          · exact Or.inl ⟨e, by rw [h1], by rw [h2]⟩
          · refine Or.inr ⟨b2 :: bs, σ2, by rw [h1], by rw [h2], by simp [h3], ?_⟩
            -- numbering and building a bundle leave the number of its items, their amounts and their image counts as they were
            have hc2 : b2.checks = numberWith stampC 1 b.checks := by rw [hb2, ← numberChecks_eq]; rfl
            have hr2 : b2.returns = numberWith stampR 1 b.returns := by rw [hb2, ← numberReturns_eq]; rfl
            obtain ⟨c1, c2, c3⟩ := numberWith_facts stampC (fun _ _ => rfl) (fun _ _ => rfl) b.checks 1
            obtain ⟨r1, r2, r3⟩ := numberWith_facts stampR (fun _ _ => rfl) (fun _ _ => rfl) b.returns 1
            rw [h4, hv1]
            apply view_ext <;>
              simp only [List.flatMap_cons, List.length_append, List.length_cons, amountOf_append, imagesOf_append, itemsB, hc2, hr2,
                c1, c2, c3, r1, r2, r3] <;> omega

/-- the locals of `CashLetter.build` before the bundle loop -/
def σ0 (cl : CashLetter Vals) : Env :=
  let σ : Env := []
  let σ := σ.set "cashLetterBundleCount" (cl.bundles.length : Int)
  let σ := σ.set "cashLetterItemsCount" (0 : Int)
  let σ := σ.set "cashLetterTotalAmount" (0 : Int)
  let σ := σ.set "cashLetterImagesCount" (0 : Int)
  let σ := σ.set "bundleSequenceNumber" (1 : Int)
  let σ := σ.set "creditIndicator" (0 : Int)
  let σ := if decide ((cl.creditItems.length : Int) > (0 : Int)) then (
    let σ := σ.set "cashLetterItemsCount" ((σ.get "cashLetterItemsCount") + (cl.creditItems.length : Int))
    let σ := σ.set "creditIndicator" (1 : Int)
    σ) else σ
  σ

theorem view_σ0 (cl : CashLetter Vals) :
    view (σ0 cl) = ⟨1, (cl.bundles.length : Int), if cl.creditItems.isEmpty then 0 else 1, (cl.creditItems.length : Int), 0, 0⟩ := by
  unfold σ0
  cases cl.creditItems with
  | nil =>
    simp only [List.length_nil, Int.natCast_zero, Int.lt_irrefl, gt_iff_lt, decide_false, Bool.false_eq_true, view,
      get_set, String.reduceEq, ↓reduceIte, List.isEmpty_nil]
  | cons a r =>
    have : decide (((a :: r).length : Int) > 0) = true := by simp
    simp only [this, view, get_set, String.reduceEq, ↓reduceIte, List.isEmpty_cons, Int.zero_add, Bool.false_eq_true]

/-- every statement of the translated method had a recognised shape -/
theorem clbuild_recognised : Gen.CL.recognised = true := by decide

/-- **`CashLetter.build` as translated from cashLetter.go is the build model**, for every cash letter -/
theorem clbuild_eq_model (m : Model) (cl : CashLetter Vals) : Gen.CL.build m cl = cashLetterBuild m cl := by
  unfold Gen.CL.build
  dsimp only
  generalize hF : forMapE cl.bundles _ _ = F
  -- the loop of the translation is the loop over `genB` from the locals `σ0`
  replace hF : forMapE cl.bundles (σ0 cl) (genB m) = F := by
    rw [← hF]; unfold σ0 genB itemC itemR preC preR addBody; rfl
  unfold cashLetterBuild
  cases hh : cl.header with
  | none => rfl
  | some h =>
    simp only [Option.isNone_some, Bool.false_eq_true, if_false, vOpt]
    cases vErr m Kind.cashLetterHeader h with
    | some e => rfl
    | none =>
      simp only [firstErr_any]
      by_cases hany : cl.bundles.any (fun b => b.header.isNone) = true
      · simp only [hany, if_true]
      · have hany' : cl.bundles.any (fun b => b.header.isNone) = false := by simpa using hany
        simp only [hany', Bool.false_eq_true, if_false]
        rcases bundlesLoop m cl.bundles (σ0 cl) 1 (by simpa [Option.isSome_iff_ne_none] using hany')
          (congrArg View.bsn (view_σ0 cl)) with ⟨e, h1, h2⟩ | ⟨bs, σ', h1, h2, h3, h4⟩
        · rw [hF] at h1; rw [h1, h2]
        · rw [hF] at h1; rw [h1, h2]
          dsimp only
          rw [view_σ0] at h4
          simp only [view, View.mk.injEq] at h4
          obtain ⟨_, g1, g5, g2, g3, g4⟩ := h4
          rw [← h3] at g1
          rw [Int.zero_add] at g3 g4
          rw [Int.add_comm] at g2
          unfold amountOf at g3
          unfold imagesOf at g4
          unfold itemsB at g2 g3 g4
          rw [g1, g2, g3, g4, g5]
          cases hc : cl.control with
          | none => simp [newRec]
          | some old =>
            by_cases hz : (old.d "SettlementDate").isZero = true <;>
              by_cases he : (old.s "ECEInstitutionName").isEmpty = true <;> simp [newRec, hz, he]
end Icl.ClBuildEq
