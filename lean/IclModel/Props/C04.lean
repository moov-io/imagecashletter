/-
C04 — a successful read never drops, overwrites or re-parents a record.

`attributeAux` / `attributeAll` (Lemmas/Automaton.lean) is the X9 nesting automaton (specification): it
assigns every input record, by the records it follows, the cash letter / bundle / item it belongs to.
`filePlaces` (Lemmas/Census.lean) lists the records a returned file holds with the same coordinates.  The
property (`C04_read`): a file returned without error holds at every place below the file level as many
records as the automaton attributes to it.  The model reader is tied to reader.go by `step_eq`,
`readLinesB_eq`, `minRecordLength_eq`, `readFinish_eq` (Props/C04Reader.lean: `parseLine`, the scan loop,
the length rule and the final checks as translated from the source are the model's) and by the
single-fault correspondence stream (every delete, duplicate, move, insert, cut of generated valid files).
-/
import IclModel.Lemmas.Reassemble
import IclModel.Lemmas.CensusStep
namespace Icl.C04
open Icl Icl.C01

/-- the automaton never loses a record: one place per input record, of the record's own kind -/
theorem attribute_kinds (a : AState) (ks : List Kind) : (attributeAux a ks).1.map (·.kind) = ks := by
  induction ks generalizing a with
  | nil => simp [attributeAux]
  | cons k r ih =>
    simp only [attributeAux, List.map_cons]
    have hk : (astep a k).2.kind = k := by cases k <;> simp [astep]
    rw [hk, ih]

def censusItem (isCheck : Bool) (cl b it : Nat) (i : Item α) : List Place :=
  (Item.flatten isCheck i).map (fun kr => ⟨kr.1, cl, b, it⟩)

theorem census_item_kinds (isCheck : Bool) (cl b it : Nat) (i : Item α) :
    (censusItem isCheck cl b it i).map (·.kind) = (Item.flatten isCheck i).map (·.1) := by
  simp [censusItem, Function.comp_def]

theorem rel_lastItem (c : Core) (a : AState) (ps : List Place) (r : Rel c a ps) (k : Kind)
    (hk : astep a k = ({ a with ok := a.ok && a.inB && a.it != 0 }, ⟨k, a.cl, a.b, a.it⟩))
    (isCheck : Bool) (hc : (if isCheck then coreHasChecks c else coreHasReturns c) = true) (f : Item Vals → Item Vals)
    (hf : ∀ x, ∃ n, (members isCheck x)[slot k]? = some (n, k) ∧
      members isCheck (f x) = (members isCheck x).set (slot k) (n + 1, k)) :
    Rel (if isCheck then lastCheckUpd c f else lastReturnUpd c f) (astep a k).1 (ps ++ [(astep a k).2]) := by
  obtain ⟨bd, hcb, hne⟩ : ∃ bd, c.curBundle = some bd ∧ (if isCheck then bd.checks else bd.returns) ≠ [] := by
    cases hcb : c.curBundle with
    | none => cases isCheck <;> simp [coreHasChecks, coreHasReturns, hcb] at hc
    | some bd => exact ⟨bd, rfl, by cases isCheck <;> simpa [coreHasChecks, coreHasReturns, hcb] using hc⟩
  have hhdr : bd.header.isSome = true := by
    cases ho : openB c with
    | true => simpa [openB, hcb] using ho
    | false =>
      have := r.closedEmpty ho bd hcb
      cases isCheck <;> simp [this.1, this.2] at hne
  have hother : (if isCheck then bd.returns else bd.checks) = [] := by
    have := r.notMixed bd hcb
    cases isCheck <;> simp_all
  have hl := (List.dropLast_concat_getLast hne).symm
  generalize List.dropLast _ = l, List.getLast _ hne = x at hl
  have := rel_items c a ps r k isCheck bd hcb hhdr hother (l ++ [f x])
    (fun ho hi hn => by rw [hk]; simp_all)
    (fun cl b p => by
      simp only [hl, itemsPlaces_append, List.count_append, itemPlaces_count_app isCheck f k hf, List.length_append,
        List.length_singleton, Nat.zero_add]
      omega)
  cases isCheck <;> simp only [Bool.false_eq_true, if_false, if_true] at hl this ⊢ <;>
    simpa [lastCheckUpd, lastReturnUpd, hcb, hl, modifyLast_concat] using this

/-- the tree builder and the automaton move together: every record `pushRec` attaches lands at the place
the automaton assigns to it -/
theorem rel_push (m : Model) (c c' : Core) (a : AState) (ps : List Place) (r : Rel c a ps) (k : Kind) (v : Vals)
    (h : pushRec m c k v = some c') : Rel c' (astep a k).1 (ps ++ [(astep a k).2]) := by
  cases k with
  | fileHeader | fileControl => cases h
  | cashLetterHeader =>
    simp only [pushRec, Option.ite_none_left_eq_some, Option.some.injEq] at h
    obtain ⟨hcl, rfl⟩ := h
    exact rel_cashLetterHeader c a ps r (by simpa using hcl) v _
  | bundleHeader =>
    simp only [pushRec, Option.ite_none_left_eq_some, Option.some.injEq] at h
    obtain ⟨hob, hcl, rfl⟩ := h
    exact rel_bundleHeader c a ps r (by simpa [Option.isSome_iff_ne_none] using hcl) (by simpa using hob) v _
  | checkDetail =>
    cases hcb : c.curBundle with
    | none => simp [pushRec, hcb] at h
    | some bd =>
      simp only [pushRec, hcb, Option.ite_none_left_eq_some, Option.some.injEq] at h
      obtain ⟨hh, hr, rfl⟩ := h
      exact rel_newItem c a ps r true bd hcb (by simpa [Option.isSome_iff_ne_none] using hh) (by simpa using hr) v
  | returnDetail =>
    cases hcb : c.curBundle with
    | none => simp [pushRec, hcb] at h
    | some bd =>
      simp only [pushRec, hcb, Option.ite_none_left_eq_some, Option.some.injEq] at h
      obtain ⟨hh, hr, rfl⟩ := h
      exact rel_newItem c a ps r false bd hcb (by simpa [Option.isSome_iff_ne_none] using hh) (by simpa using hr) v
  | cdAddA | cdAddB | cdAddC =>
    simp only [pushRec, Option.ite_none_right_eq_some, Option.some.injEq] at h
    obtain ⟨hc, rfl⟩ := h
    exact rel_lastItem c a ps r _ rfl true hc _ fun x => ⟨_, rfl, by simp [members, slot]⟩
  | rdAddA | rdAddB | rdAddC | rdAddD =>
    simp only [pushRec, Option.ite_none_right_eq_some, Option.some.injEq] at h
    obtain ⟨hc, rfl⟩ := h
    exact rel_lastItem c a ps r _ rfl false hc _ fun x => ⟨_, rfl, by simp [members, slot]⟩
  | ivDetail | ivData | ivAnalysis =>
    simp only [pushRec] at h
    split at h
    · cases h
      exact rel_lastItem c a ps r _ rfl true ‹_› _ fun x => ⟨_, rfl, by simp [members, slot]⟩
    · split at h <;> cases h
      exact rel_lastItem c a ps r _ rfl false ‹_› _ fun x => ⟨_, rfl, by simp [members, slot]⟩
  | credit | creditItem | rns =>
    simp only [pushRec, Option.ite_none_left_eq_some, Option.some.injEq] at h
    obtain ⟨hcl, rfl⟩ := h
    exact rel_clAppend c a ps r _ (by simpa [Option.isSome_iff_ne_none] using hcl) _ rfl rfl rfl _ rfl
      (by simp [clMembers, slot])
  | bundleControl =>
    cases hcb : c.curBundle with
    | none => simp [pushRec, hcb] at h
    | some bd =>
      simp only [pushRec, hcb, Option.ite_none_left_eq_some, Option.some.injEq] at h
      obtain ⟨hc0, -, rfl⟩ := h
      exact rel_bundleControl c a ps r bd hcb (by simpa [Option.isSome_iff_ne_none] using hc0) v
  | cashLetterControl =>
    simp only [pushRec, Option.ite_none_left_eq_some, Option.some.injEq] at h
    obtain ⟨hcl, hob, -, -, rfl⟩ := h
    exact rel_cashLetterControl c a ps r (by simpa [Option.isSome_iff_ne_none] using hcl) (by simpa using hob) v

theorem rel_step (m : Model) (e : Enc) (s s' : RState) (line : Bytes) (a : AState) (ps : List Place) (k : Kind)
    (hk : kindOfLine line = some k) (h : rstep m e s line = .ok s') (r : Rel s.core a ps) :
    Rel s'.core (astep a k).1 (ps ++ [(astep a k).2]) := by
  obtain ⟨v, _, ha⟩ := (rstep_ok_iff m e s s' line k hk).1 h
  rcases inner_or k with hin | rfl | rfl
  · rw [(accept_inner m e s k line hin).2] at ha
    obtain ⟨c', hpush, rfl⟩ := Option.map_eq_some_iff.1 ha
    exact rel_push m s.core c' a ps r k v hpush
  · cases ha
    exact rel_fileLevel s.core a ps r .fileHeader (.inl rfl)
  · simp only [accept] at ha
    split at ha <;> cases ha
    rename_i hg
    exact rel_fileLevel s.core a ps r .fileControl (.inr ⟨rfl, by simp at hg; simpa [RState.core] using hg.2⟩)

def kindsOf (lines : List Bytes) : List Kind := lines.filterMap kindOfLine

theorem readLines_rel (m : Model) (e : Enc) : ∀ (lines : List Bytes) (s s' : RState) (a : AState) (ps : List Place),
    Rel s.core a ps → readLines m e lines s = (s', none) →
    Rel s'.core (attributeAux a (kindsOf lines)).2 (ps ++ (attributeAux a (kindsOf lines)).1) ∧
      (kindsOf lines).length = lines.length := by
  intro lines s s' a ps r h
  fun_induction readLines m e lines s generalizing a ps with
  | case1 s =>
    cases h
    simpa [kindsOf, attributeAux] using r
  | case2 => simp at h
  | case3 l rest s s1 hlen s2 hs ih =>
    obtain ⟨k, hk⟩ := rstep_ok_kind m e _ s2 l hs
    have ih := ih (astep a k).1 (ps ++ [(astep a k).2]) (rel_step m e _ s2 l a ps k hk hs r) h
    simp only [kindsOf, List.filterMap_cons, hk, attributeAux, List.length_cons] at ih ⊢
    exact ⟨by simpa [List.append_assoc] using ih.1, by simpa [kindsOf] using ih.2⟩
  | case4 => simp at h

/-- C04 on the model reader: a read that ends without error holds, below the file level, exactly the
records of the input, each under the cash letter / bundle / item it followed - none dropped, none
overwritten, none moved - and the input was in hierarchy.  (The file header and file control records
are held in one slot each; a repeated file header is the recorded finding `duplicate-file-header`.) -/
theorem C04_no_loss (m : Model) (e : Enc) (lines : List Bytes) (s' : RState)
    (h : readLines m e lines (initState m) = (s', none)) (hend : s'.cur.header.isSome = false) :
    (kindsOf lines).length = lines.length ∧
    (attributeAux {} (kindsOf lines)).2.ok = true ∧
    (attributeAux {} (kindsOf lines)).2.inCL = false ∧ (attributeAux {} (kindsOf lines)).2.inB = false ∧
    ∀ p, inner p.kind = true → (filePlaces s'.file).count p = (attributeAux {} (kindsOf lines)).1.count p := by
  have r0 : Rel (initState m).core {} [] := rel_init _ rfl
  obtain ⟨r, hlen⟩ := readLines_rel m e lines (initState m) s' {} [] r0 h
  refine ⟨hlen, r.ok, r.inCL.trans hend, r.inB.trans (r.curEmpty hend).2.2.2.2, fun p hp => ?_⟩
  rw [← List.nil_append (attributeAux _ _).1, ← r.count p hp, r.places_idle hend]
  rfl

/-- the same for `Reader.Read` as a whole (both framings): a returned file without error holds the
input's records under the parents they followed -/
theorem C04_read (m : Model) (e : Enc) (input : Bytes) (f : File Vals) (h : readFile m e input = (f, none)) :
    ∃ lines, lines = (if e.lp then (splitLP input).1 else splitNL input) ∧
    (attributeAux {} (kindsOf lines)).2.ok = true ∧
    ∀ p, inner p.kind = true → (filePlaces f).count p = (attributeAux {} (kindsOf lines)).1.count p := by
  obtain ⟨s, hrl, _, ⟨_, _, hend⟩, rfl⟩ := (readFile_ok_iff m e input f).1 h
  rw [apply_ite Prod.fst] at hrl
  have := C04_no_loss m e _ s hrl hend
  exact ⟨_, rfl, this.2.1, this.2.2.2.2⟩

/-- non-vacuity: a well-nested sequence is accepted by the automaton and a broken one is not -/
example : (attributeAll [.fileHeader, .cashLetterHeader, .bundleHeader, .checkDetail, .cdAddA, .bundleControl,
    .cashLetterControl, .fileControl]).2 = true := by decide
example : (attributeAll [.fileHeader, .cashLetterHeader, .bundleHeader, .checkDetail, .bundleControl, .checkDetail,
    .cashLetterControl, .fileControl]).2 = false := by decide
example : (attributeAll [.fileHeader, .cashLetterHeader, .bundleHeader, .checkDetail, .bundleControl,
    .fileControl]).2 = false := by decide

end Icl.C04
